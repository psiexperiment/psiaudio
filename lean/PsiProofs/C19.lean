import PsiProofs.Helper.C19_Check
import PsiGen.Names
/-!
# C19 — no code path can fail on an unresolved name

The property for the package under test, by kernel evaluation of the checker (proved correct for
every scope table in the Helper files) on the table regenerated from the sources
(`PsiGen/Names.lean`).
-/
namespace Psi.Scope

/-- The form quoted in DESIGN §6: if `check` accepts a package then every load of every scope
    resolves, and every attribute chain off a module import exists. -/
theorem check_sound (p : Package) (h : check p = true) :
    ∀ (mi : Nat) (m : Module), p.modules[mi]? = some m →
      ∀ (i : Nat) (s : Scope), m.scopes[i]? = some s →
        (∀ l ∈ s.loads, Resolves p.builtins m.scopes i l.1) ∧
        (∀ c ∈ s.chains, ∀ w mo, BoundAt p.builtins m.scopes i c.base w →
            importedModule m.scopes i c.base w = some mo → AttrExists p.modobjs mo c.path) := by
  intro mi m hm i s hs
  have := ((checkEx_iff p []).1 h mi m hm).2.1 i s hs
  exact ⟨fun l hl => (this.1 l hl).resolve_right (by simp), this.2⟩

/-- On well-formed tables an unresolved name is exactly a `none` of `resolve`. -/
theorem resolve_none_iff {bi m i n} (wf : WF m) : resolve bi m i n = none ↔ ¬ Resolves bi m i n := by
  rw [← resolves_iff wf]; cases resolve bi m i n <;> simp

end Psi.Scope

namespace Psi.Gen
open Psi.Scope

/-- Every name load in every scope of every module of `psiaudio` resolves — except the loads listed in
    `Names.excused` (recorded findings; when it is `[]` this is the full property) —, every attribute
    read off an imported module exists in that module, and every `from M import a` names an existing
    attribute. -/
theorem psiaudio_names_resolve_partial : PackageOK Names.package Names.excused :=
  (checkEx_iff _ _).1 (checkExF_eq _ _ ▸ by decide +kernel)

/-- The excused loads are genuine defects: none of them resolves. -/
theorem psiaudio_excused_unresolved_counterexample :
    ∀ e ∈ Names.excused, ∃ m, Names.package.modules[e.1]? = some m ∧
      ¬ Resolves Names.package.builtins m.scopes e.2.1 e.2.2 := by
  have h : Names.excused.all (fun e => (Names.package.modules[e.1]?).any fun m =>
      (resolve Names.package.builtins m.scopes e.2.1 e.2.2).isNone) = true := by decide +kernel
  intro e he
  obtain ⟨m, hm, hr⟩ := (Option.any_eq_true _ _).1 (List.all_eq_true.1 h e he)
  exact ⟨m, hm, (resolve_none_iff (psiaudio_names_resolve_partial e.1 m hm).1).1 (Option.isNone_iff_eq_none.1 hr)⟩

end Psi.Gen

namespace Psi.Scope.Example

/-  A table with class-scope skipping, a closure, the `__class__` cell, a builtin and an attribute
    chain off an import (no `global`/`nonlocal` declaration occurs in it).
    names: 0 = `len` (builtin), 1 = `x` (module global), 2 = `y` (class attribute), 3 = `a` (parameter),
    4 = `np` (import), 5 = `pi`, 6 = `nope` (no attribute of `np`), 7 = `__class__`,
    10 = `C`, 11 = `f`, 12 = `m`, 13 = `g`
    scope 0 module: binds x, np, C, f      scope 1 class C: binds y, m; reads x
    scope 2 method m (parent 1): reads x, len, __class__, and y when `readY`
    scope 3 function f(a): binds a, g      scope 4 nested g (parent 3): reads a, np, and the chain np.pi -/
def scopes (readY : Bool) : List Scope :=
  [ { kind := .module, parent := 0, bound := [1, 4, 10, 11], globals := [], nonlocals := [], cells := [],
      imports := [(4, 0)], loads := [], chains := [] },
    { kind := .class, parent := 0, bound := [2, 12], globals := [], nonlocals := [], cells := [7],
      imports := [], loads := [(1, 3)], chains := [] },
    { kind := .function, parent := 1, bound := [], globals := [], nonlocals := [], cells := [],
      imports := [], loads := [(1, 5), (0, 5), (7, 5)] ++ (if readY then [(2, 5)] else []), chains := [] },
    { kind := .function, parent := 0, bound := [3, 13], globals := [], nonlocals := [], cells := [],
      imports := [], loads := [], chains := [] },
    { kind := .function, parent := 3, bound := [], globals := [], nonlocals := [], cells := [],
      imports := [], loads := [(3, 9), (4, 9)], chains := [⟨4, [5], 9⟩] } ]

def pkg (readY : Bool) : Package :=
  { builtins := [0], modobjs := [{ attrs := [5], submods := [] }],
    modules := [{ scopes := scopes readY, fromImports := [(0, 5, 1)] }] }

example : check (pkg false) = true := by decide
/-- the method reads the class attribute `y` as a bare name: Python skips the class scope -/
example : check (pkg true) = false := by decide
example : resolve [0] (scopes true) 2 2 = none := by decide
example : ¬ Resolves [0] (scopes true) 2 2 :=
  (resolve_none_iff (wf_of_allIdx (by decide))).1 (by decide)
example : BoundAt [0] (scopes false) 4 3 (.enclosing 3) := resolve_sound (by decide)
example : BoundAt [0] (scopes false) 2 7 (.cell 1) := resolve_sound (by decide)
example : BoundAt [0] (scopes false) 2 0 .builtin := resolve_sound (by decide)
example : AttrExists (pkg false).modobjs 0 [5] := (chainOk_iff _ _).1 (by decide)
example : ¬ AttrExists (pkg false).modobjs 0 [6] := fun h => by
  have := (chainOk_iff _ _).2 h; revert this; decide
/-- the generated package is not empty -/
example : 10 ≤ Psi.Gen.Names.package.modules.length := by decide +kernel
example : 1000 ≤ (Psi.Gen.Names.package.modules.map fun m => (m.scopes.map fun s => s.loads.length).sum).sum := by
  decide +kernel

end Psi.Scope.Example

import PsiProofs.Helper.C08_Shapes
/-!
# C08 — stimuli have the requested calibrated level; level and polarity scale exactly

The stimuli of `psiaudio/stim.py` are modelled in `PsiModel/DbField.lean`: tone, SAM tone, click and the
filtered noises as `polarity · sf(level) · proto(params, k)`, the noises followed by `lfilter` from an initial
state `z0`; `chirp`, `blClick` and `loadWav` have models of their own without a polarity argument (the code
has none), so only level theorems are stated for them.

* level linearity: over ℝ (round-off not bounded);
* exact polarity: over any arithmetic satisfying `SignSymm` (true of IEEE-754 round-to-nearest with
  values compared numerically) — an assumption about NumPy's arithmetic, checked bit-exactly by the harness;
* calibrated level of a whole-cycle tone (`tone_calibrated_level`): DFT orthogonality (`Helper/C16_*`) + C07.
-/
namespace Psi.Db

/-- `tone`: +d dB of level multiplies every sample by `10^(d/20)`, through any calibration. -/
theorem tone_level_linear (c : Cal ℝ) (f L d x : ℝ) (h : getSf c f L 0 = .val x) :
    ∃ x', getSf c f (L + d) 0 = .val x' ∧
      ∀ pol fs ph off j, tone pol x' fs f ph off j = (10 : ℝ) ^ (d / 20) * tone pol x fs f ph off j :=
  ⟨_, getSf_add_level c f L 0 d x h, fun pol fs ph off j => tone_scale _ pol x fs f ph off j⟩

/-- `sam_tone`: the scale factors of the three components all carry the factor `g = 10^(d/20)`. -/
theorem samTone_level_linear (g pol sfl sfc sfu eq fs fc fm phl phc phu : ℝ) (off j : ℕ) :
    samTone pol (g * sfl) (g * sfc) (g * sfu) eq fs fc fm phl phc phu off j
      = g * samTone pol sfl sfc sfu eq fs fc fm phl phc phu off j := by
  simp only [samTone, samPart_eq_tone, mul_assoc g, mul_div_assoc g, tone_scale, ← mul_add]

theorem scaled_level_linear (g pol sf : ℝ) (proto : List ℝ) :
    scaled pol (g * sf) proto = (scaled pol sf proto).map (g * ·) :=
  map_comp_eq (g * ·) (fun p => by ring) proto

theorem bbn_bounds_scale (g sf : ℝ) : bbnLow (g * sf) = g * bbnLow sf ∧ bbnHigh (g * sf) = g * bbnHigh sf := by
  constructor <;> simp only [bbnLow, bbnHigh] <;> ring

/-- Filtered noise (`notch_noise`, `bandlimited_noise`, `shaped_noise`, `bandlimited_fir_noise`, and
`broadband_noise` as the identity filter) is linear in the level if the noise bounds **and the initial filter
state** scale with it. -/
theorem filtStim_level_linear (g polIn polOut low high b0 : ℝ) (bt atl z0 : List ℝ) (discard : ℕ) (u : List ℝ) :
    filtStim polIn polOut (g * low) (g * high) b0 bt atl (z0.map (g * ·)) discard u
      = (filtStim polIn polOut low high b0 bt atl z0 discard u).map (g * ·) :=
  filtStim_hom (scaleHom g) (fun y p => (mul_assoc g y p).symm)
    (uniform_scale g polIn low high) polOut b0 bt atl z0 discard u

/-- The filter starts at rest: the notch filter after `C08_fix_1`. -/
theorem filtStim_level_linear_zero (g polIn polOut low high b0 : ℝ) (bt atl : List ℝ) (n discard : ℕ)
    (u : List ℝ) :
    filtStim polIn polOut (g * low) (g * high) b0 bt atl (zeroState n) discard u
      = (filtStim polIn polOut low high b0 bt atl (zeroState n) discard u).map (g * ·) := by
  have := filtStim_level_linear g polIn polOut low high b0 bt atl (zeroState n) discard u
  rwa [zeroState_hom (scaleHom g)] at this

noncomputable def zeroInputResponse (polOut b0 : ℝ) (bt atl z0 : List ℝ) (discard : ℕ) (u : List ℝ) : List ℝ :=
  ((lfilter b0 bt atl z0 (u.map fun _ => (0 : ℝ))).1.drop discard).map (· * polOut)

/-- The same `z0` at both levels (what `BandlimitedNoiseFactory` does with `lfilter_zi`): the departure from
level linearity is `(1 - g) ·` the zero-input response of `z0` that survives the discarded onset.  The harness
measures that response on the real filter designs (< 1e-12 of the quietest noise amplitude; typically 1e-80). -/
theorem filtStim_level_defect (g polIn polOut low high b0 : ℝ) (bt atl z0 : List ℝ) (discard : ℕ) (u : List ℝ) :
    filtStim polIn polOut (g * low) (g * high) b0 bt atl z0 discard u
      = ladd ((filtStim polIn polOut low high b0 bt atl z0 discard u).map (g * ·))
             ((zeroInputResponse polOut b0 bt atl z0 discard u).map ((1 - g) * ·)) := by
  have hx : (u.map fun r => polIn * uniform (g * low) (g * high) r)
      = (u.map fun r => polIn * uniform low high r).map (g * ·) :=
    map_comp_eq (g * ·) (uniform_scale g polIn low high) u
  have hzero : (u.map fun _ => (0 : ℝ)) = ((u.map fun r => polIn * uniform low high r).map fun _ => (0 : ℝ)) := by
    rw [List.map_map]; rfl
  unfold filtStim zeroInputResponse
  rw [hx, hzero, lfilter_gain_fixed_state]
  -- dropping the onset and the output polarity go through the pointwise sum
  simp only [ladd, List.drop_zipWith, List.map_zipWith, List.zipWith_map_left, List.zipWith_map_right]
  congr 1
  funext a b
  ring

section Polarity
variable {α : Type} [TrigField α] [SignSymm α]
-- instance search otherwise walks Mathlib's algebraic hierarchy before it finds these
attribute [local instance 1100] DbField.toAdd DbField.toSub DbField.toMul DbField.toNeg

theorem tone_polarity (sf fs f ph : α) (off j : ℕ) :
    tone (-(nat 1)) sf fs f ph off j = -(tone (nat 1) sf fs f ph off j) := by
  simp only [tone, SignSymm.neg_mul]

theorem samTone_polarity (sfl sfc sfu eq fs fc fm phl phc phu : α) (off j : ℕ) :
    samTone (-(nat 1)) sfl sfc sfu eq fs fc fm phl phc phu off j
      = -(samTone (nat 1) sfl sfc sfu eq fs fc fm phl phc phu off j) := by
  simp only [samTone, samPart_eq_tone, tone_polarity, SignSymm.neg_add]

theorem scaled_polarity (sf : α) (proto : List α) :
    scaled (-(nat 1)) sf proto = (scaled (nat 1) sf proto).map (- ·) :=
  map_comp_eq (- ·) (fun p => by rw [SignSymm.neg_mul, SignSymm.neg_mul]) proto

/-- Polarity applied to the filter *input* (`notch_noise`, `broadband_noise`): exact negation provided the
initial state is its own negation (the zero state). -/
theorem filtStim_polarity_in (low high b0 : α) (bt atl z0 : List α) (hz : z0.map (- ·) = z0) (discard : ℕ)
    (u : List α) :
    filtStim (-(nat 1)) (nat 1) low high b0 bt atl z0 discard u
      = (filtStim (nat 1) (nat 1) low high b0 bt atl z0 discard u).map (- ·) := by
  have h := filtStim_hom negHom (fun y p => (SignSymm.neg_mul y p).symm)
    (fun r => SignSymm.neg_mul (nat 1) (uniform low high r)) (nat 1) b0 bt atl z0 discard u
  rwa [hz] at h

theorem filtStim_polarity_in_zero (low high b0 : α) (bt atl : List α) (n discard : ℕ) (u : List α) :
    filtStim (-(nat 1)) (nat 1) low high b0 bt atl (zeroState n) discard u
      = (filtStim (nat 1) (nat 1) low high b0 bt atl (zeroState n) discard u).map (- ·) :=
  filtStim_polarity_in low high b0 bt atl (zeroState n) (zeroState_hom negHom n) discard u

/-- Polarity applied to the filter *output* (`bandlimited_noise`, `shaped_noise`, `bandlimited_fir_noise`):
exact negation whatever the initial state. -/
theorem filtStim_polarity_out (polIn low high b0 : α) (bt atl z0 : List α) (discard : ℕ) (u : List α) :
    filtStim polIn (-(nat 1)) low high b0 bt atl z0 discard u
      = (filtStim polIn (nat 1) low high b0 bt atl z0 discard u).map (- ·) := by
  unfold filtStim
  exact map_comp_eq (- ·) (fun y => SignSymm.mul_neg y (nat 1)) _

/-- Any envelope (`Cos2EnvelopeFactory`, `Modulator`, `GateFactory`) keeps the exact polarity of the carrier. -/
theorem modulate_polarity (env tok : List α) :
    modulate env (tok.map (- ·)) = (modulate env tok).map (- ·) :=
  modulate_hom negHom.map_mul env tok

/-- `Cos2EnvelopeFactory` over `ToneFactory`, chunk by chunk. -/
theorem rampedTone_polarity (env : List α) (sf fs f ph : α) (off : ℕ) :
    rampedTone env (-(nat 1)) sf fs f ph off = (rampedTone env (nat 1) sf fs f ph off).map (- ·) := by
  unfold rampedTone
  rw [← modulate_polarity, map_comp_eq (- ·) (tone_polarity sf fs f ph off)]

end Polarity

/-- A whole-cycle tone requested at level `L` through any calibration has the RMS `get_sf(f, L)`; measured back
through the same calibration it reads `L`. -/
theorem tone_calibrated_level (c : Cal ℝ) (n k : ℕ) (fs ph L sf : ℝ) (hfs : fs ≠ 0) (hk : 0 < k)
    (hkn : 2 * k < n) (h : getSf c (k * fs / n) L 0 = .val sf) :
    rms n (tone (nat 1) sf fs (k * fs / n) ph 0) = sf ∧
    getDb c (k * fs / n) (rms n (tone (nat 1) sf fs (k * fs / n) ph 0)) = .val L := by
  have hpos : 0 < sf := by
    obtain ⟨S, _, rfl⟩ := Res.map_eq_val h
    exact sfOf_pos S L 0
  have hr : rms n (tone (nat 1) sf fs (k * fs / n) ph 0) = sf := by
    rw [funext (tone_eq_toneSig n k sf fs ph hfs), tone_rms n k sf ph hk hkn, abs_of_pos hpos]
  exact ⟨hr, by rw [hr, getDb_getSf c _ L 0 sf h, add_zero]⟩

/-- `ShapedNoiseFactory` / `BandlimitedFIRNoiseFactory` (`a = [1]`: every entry of `atl` is 0) start from
`lfilter_zi(taps)` and discard `len(zi) = ntaps - 1` samples: what they return does not depend on that state. -/
theorem filtStim_fir_state_flushed (polIn polOut low high b0 : ℝ) (bt atl z0 z0' : List ℝ)
    (ha : ∀ a ∈ atl, a = 0) (hb : bt.length = z0.length) (hal : atl.length = z0.length)
    (hlen : z0'.length = z0.length) (discard : ℕ) (hd : z0.length ≤ discard) (u : List ℝ) :
    filtStim polIn polOut low high b0 bt atl z0 discard u
      = filtStim polIn polOut low high b0 bt atl z0' discard u := by
  unfold filtStim
  rw [lfilter_fir_flush b0 bt atl ha _ z0 z0' hb hal hlen discard hd]

/-- `shaped_noise`: the level is in the noise bounds, the FIR state is the same (unscaled) at both levels; no
hypothesis on the state is needed, since it is flushed. -/
theorem shapedNoise_level_linear (g polIn polOut low high b0 : ℝ) (bt atl z0 : List ℝ)
    (ha : ∀ a ∈ atl, a = 0) (hb : bt.length = z0.length) (hal : atl.length = z0.length)
    (discard : ℕ) (hd : z0.length ≤ discard) (u : List ℝ) :
    filtStim polIn polOut (g * low) (g * high) b0 bt atl z0 discard u
      = (filtStim polIn polOut low high b0 bt atl z0 discard u).map (g * ·) := by
  rw [filtStim_fir_state_flushed polIn polOut (g * low) (g * high) b0 bt atl z0 (z0.map (g * ·)) ha hb hal
    (by simp) discard hd u]
  exact filtStim_level_linear g polIn polOut low high b0 bt atl z0 discard u

/-- `bandlimited_fir_noise`: the level is in the taps (`firwin2(gain = sf)`, linear in its gains — an input
cell), the noise bounds are `±√3` whatever the level, the state is `lfilter_zi` of the respective taps
(any `z0`, `z0'` here). -/
theorem firNoise_level_linear (g polIn polOut low high b0 : ℝ) (bt atl z0 z0' : List ℝ)
    (ha : ∀ a ∈ atl, a = 0) (hb : bt.length = z0.length) (hal : atl.length = z0.length)
    (hlen : z0'.length = z0.length) (discard : ℕ) (hd : z0.length ≤ discard) (u : List ℝ) :
    filtStim polIn polOut low high (g * b0) (bt.map (g * ·)) atl z0' discard u
      = (filtStim polIn polOut low high b0 bt atl z0 discard u).map (g * ·) := by
  rw [filtStim_fir_state_flushed polIn polOut low high (g * b0) (bt.map (g * ·)) atl z0' (z0.map (g * ·)) ha
    (by simp [hb, hlen]) (by simp [hal, hlen]) (by simp [hlen]) discard (by omega) u]
  unfold filtStim
  rw [lfilter_scale_b]
  exact drop_mul_hom (fun y p => (mul_assoc g y p).symm) polOut discard _

/-- `get_mean_sf` is the scale factor of `chirp`, `broadband_noise`, `notch_noise`, `bandlimited_noise`,
`shaped_noise` and (inside `firwin2`'s gains) `bandlimited_fir_noise`. -/
theorem meanSf_level_linear (c : Cal ℝ) (flb : ℝ) (freqs : List ℝ) (L d x : ℝ)
    (h : getMeanSf c flb freqs L 0 = .val x) :
    getMeanSf c flb freqs (L + d) 0 = .val ((10 : ℝ) ^ (d / 20) * x) := by
  rw [getMeanSf_scale c flb freqs fun f => getSf_shift c f (add_right_comm L d 0), h, Res.map_val]

/-- `chirp` (`√2·sf·(w/rms w)·sin(2π·cumsum(ifreq)/fs)` from the window samples `w`) with
`sf = get_mean_sf(f0, f1, level)`. -/
theorem chirp_level_linear (c : Cal ℝ) (fs f0 f1 : ℝ) (freqs : List ℝ) (L d x : ℝ) (w : List ℝ)
    (h : getMeanSf c f0 freqs L 0 = .val x) :
    ∃ x', getMeanSf c f0 freqs (L + d) 0 = .val x' ∧
      chirp fs f0 f1 x' w = (chirp fs f0 f1 x w).map ((10 : ℝ) ^ (d / 20) * ·) :=
  ⟨_, meanSf_level_linear c f0 freqs L d x h, chirp_scale _ fs f0 f1 x w⟩

/-- The chirp's envelope `w / util.rms(w)` has RMS exactly 1; the RMS of the chirp itself is `sf` only up to the
sweep's cross terms (oracle, 0.5 dB). -/
theorem chirp_envelope_unit_rms (w : List ℝ) (hw : rmsL w ≠ 0) : rmsL (w.map (· / rmsL w)) = 1 :=
  rmsL_normalized w hw

/-- `ClickFactory`: `polarity * get_sf(0, level) * ones(n)`. -/
theorem click_level_linear (c : Cal ℝ) (L d x pol : ℝ) (n : ℕ) (h : getSf c 0 L 0 = .val x) :
    ∃ x', getSf c 0 (L + d) 0 = .val x' ∧
      scaled pol x' (List.replicate n 1) = (scaled pol x (List.replicate n 1)).map ((10 : ℝ) ^ (d / 20) * ·) :=
  ⟨_, getSf_add_level c 0 L 0 d x h, scaled_level_linear _ _ _ _⟩

theorem modulate_level_linear (g : ℝ) (env tok : List ℝ) :
    modulate env (tok.map (g * ·)) = (modulate env tok).map (g * ·) :=
  modulate_hom (scaleHom g).map_mul env tok

/-- `Cos2EnvelopeFactory` over `ToneFactory`, chunk by chunk. -/
theorem rampedTone_level_linear (g : ℝ) (env : List ℝ) (pol sf fs f ph : ℝ) (off : ℕ) :
    rampedTone env pol (g * sf) fs f ph off = (rampedTone env pol sf fs f ph off).map (g * ·) := by
  unfold rampedTone
  rw [← modulate_level_linear, map_comp_eq (g * ·) (tone_scale g pol sf fs f ph off)]

/-- `load_wav` / `WavFileFactory`: `waveform *= sf`, whatever the normalisation. -/
theorem loadWav_level_linear (g : ℝ) (norm : WavNorm) (sf : ℝ) (x : List ℝ) :
    loadWav norm (g * sf) x = (loadWav norm sf x).map (g * ·) :=
  map_comp_eq (g * ·) (fun v => mul_left_comm v g sf) _

/-- `normalization='rms'`: the RMS of what is played is `sf = get_sf(1e3, level)`. -/
theorem loadWav_rms_level (sf : ℝ) (x : List ℝ) (hx : rmsL x ≠ 0) (hsf : 0 ≤ sf) :
    rmsL (loadWav .rms sf x) = sf := by
  have e : loadWav .rms sf x = (x.map (· / rmsL x)).map (sf * ·) :=
    List.map_congr_left fun v _ => mul_comm v sf
  rw [e, rmsL_scale, rmsL_normalized x hx, abs_of_nonneg hsf, mul_one]

/-- `normalization='pe'`: the maximum of what is played is `sf = get_sf(1e3, level)`. -/
theorem loadWav_pe_level (sf a : ℝ) (t : List ℝ) (hm : 0 < lmaxFrom a t) (hsf : 0 ≤ sf) :
    ∃ b t', loadWav .pe sf (a :: t) = b :: t' ∧ lmaxFrom b t' = sf := by
  refine ⟨sf / lmaxFrom a t * a, t.map ((sf / lmaxFrom a t) * ·), ?_, ?_⟩
  · show ((a :: t).map (· / lmaxFrom a t)).map (· * sf) = (a :: t).map ((sf / lmaxFrom a t) * ·)
    rw [List.map_map]
    exact List.map_congr_left fun v _ => div_mul_comm v _ sf
  · rw [lmaxFrom_scale _ (div_nonneg hsf hm.le), div_mul_cancel₀ sf hm.ne']

/-- `bandlimited_click`: the level enters through the flat pass-band magnitude `sf` of the spectrum handed to
`csd_to_signal`, which is linear. -/
theorem blClick_level_linear (g : ℝ) (n nw : ℕ) (fs sf : ℝ) (klo khi i : ℕ) :
    blClick n nw fs (g * sf) klo khi i = g * blClick n nw fs sf klo khi i := by
  unfold blClick
  rw [← csdToSignal_smul]
  congr 1
  funext k
  exact clickSpec_scale g n fs sf klo khi k

/-- That `sf` is the mean over the pass band of `get_sf(f, band_to_spectrum_level(level, count))`; this is one
term of it. -/
theorem blClick_sf_level_linear (c : Cal ℝ) (f L d cnt x : ℝ) (h : getSf c f (bandToSpectrum L cnt) 0 = .val x) :
    getSf c f (bandToSpectrum (L + d) cnt) 0 = .val ((10 : ℝ) ^ (d / 20) * x) := by
  rw [getSf_shift c f (by simp only [bandToSpectrum]; ring : _ + 0 = bandToSpectrum L cnt + 0 + d), h,
    Res.map_val]

example : ∃ x', getSf (Cal.fromSpl (94 : ℝ) 1 0) 1000 (60 + 20) 0 = .val x' ∧
    ∀ pol fs ph off j, tone pol x' fs 1000 ph off j
      = (10 : ℝ) ^ ((20 : ℝ) / 20) * tone pol ((10 : ℝ) ^ ((60 - (94 - db1 (1 : ℝ)) + 0) / 20)) fs 1000 ph off j :=
  tone_level_linear _ _ _ _ _ (by simp [getSf, getSens, Cal.fromSpl, sensFromDb, sfOf_real])

example : filtStim (-(nat 1)) (nat 1) (-1 : ℝ) 1 1 [0.5] [-0.9] (zeroState 1) 0 [0.25, 0.75]
    = (filtStim (nat 1) (nat 1) (-1 : ℝ) 1 1 [0.5] [-0.9] (zeroState 1) 0 [0.25, 0.75]).map (- ·) :=
  filtStim_polarity_in_zero _ _ _ _ _ _ _ _

example := shapedNoise_level_linear 10 1 (-1) (-1) 1 0.5 [0.25, 0.125] [0, 0] [3, 4] (by simp) rfl rfl 2 (by simp)
  [0.25, 0.75, 0.5]
example := firNoise_level_linear 10 1 (-1) (-1) 1 0.5 [0.25, 0.125] [0, 0] [3, 4] [30, 40] (by simp) rfl rfl rfl 2
  (by simp) [0.25, 0.75, 0.5]
example := loadWav_rms_level 2 [3, -4] (by rw [rmsL_real]; exact (Real.sqrt_pos.mpr (by norm_num)).ne') zero_le_two
example := loadWav_pe_level 2 (-1) [3, 2] (by norm_num [lmaxFrom]) zero_le_two
example := rampedTone_polarity ([0, 0.5, 1] : List ℝ) 2 1000 100 0 0
example := meanSf_level_linear (Cal.fromSpl (94 : ℝ) 1 0) 1000 [] 60 20 _ rfl
example := chirp_level_linear (Cal.fromSpl (94 : ℝ) 1 0) 20000 1000 2000 [] 60 20 _ [1, 1, 1] rfl
example := chirp_envelope_unit_rms [3, -4] (by rw [rmsL_real]; exact (Real.sqrt_pos.mpr (by norm_num)).ne')

end Psi.Db

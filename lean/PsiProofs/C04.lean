import PsiProofs.Helper.C04_Once
import PsiProofs.C02
/-!
C04 — pause/resume conserves trials and reports every cancellation exactly once.

Histories are arbitrary lists over {pop n, pause m, pause(), resume m, resume()}; positions `m`
are sample positions (t = t0 + m/fs). All theorems hold for every policy and every oracle.
-/
namespace Psi.Queue

inductive Op
  | pop (n : Nat)
  | pause (m : Option Int)
  | resume (m : Option Int)

def stepOp (s : QState) : Op → Except Err QState
  | .pop n =>
    match popBuffer n s with
    | .error e => .error e
    | .ok (_, s') => .ok s'
  | .pause m => .ok (pause m s).1      -- the state after a rejected pause is the code's state too
  | .resume m => .ok (resume m s)

def runOps : List Op → QState → Except Err QState
  | [], s => .ok s
  | op :: ops, s =>
    match stepOp s op with
    | .error e => .error e
    | .ok s' => runOps ops s'

/-- the invariant of every history; `Good_init` gives it for a queue after `append`s and before anything
was played -/
structure Good (s : QState) : Prop where
  wf : WF s
  cons : Cons s
  once : Once s

theorem Good_init {s : QState} (hg : s.generated = []) (hr : s.removed = []) (ha : s.added = [])
    (hs : s.source = none) (hd : ∀ (i : Nat) (e : Entry), s.data[i]? = some e → 0 < e.len ∧ e.trials = e.requested) :
    Good s := by
  refine ⟨⟨fun i e h => (hd i e h).1, by simp [hs]⟩, ?_, ?_⟩
  · intro key e he
    simp [keptOf, hg, (hd key e he).2]
  · simp [Once, hg, hr, ha]

theorem WF_pause (m : Option Int) {s : QState} (hw : WF s) : WF (pause m s).1 := by
  cases m with
  | none => exact ⟨hw.data, hw.src⟩
  | some m =>
    obtain ⟨hd, _, _, _, hsrc, _⟩ := pause_fields m s
    refine ⟨?_, by simp [hsrc]⟩
    intro i e he
    rw [hd, foldl_setTrials_get] at he
    obtain ⟨e0, h0, rfl⟩ := Option.map_eq_some_iff.1 he
    exact hw.data i e0 h0

theorem WF_resume (m : Option Int) {s : QState} (hw : WF s) : WF (resume m s) := by
  unfold resume; cases m <;> exact ⟨hw.data, hw.src⟩

/-- An invariant kept by one tick is kept by every operation whose side condition `C` holds.
`hw`: a request is a run of ticks from a well-formed state only (`popBuffer_refines`) -/
theorem stepOp_inv {I : QState → Prop} {C : QState → Op → Prop}
    (htick : ∀ {s c s'}, I s → tick s = .ok (c, s') → I s')
    (hpause : ∀ m {s}, I s → C s (.pause m) → I (pause m s).1)
    (hresume : ∀ m {s}, I s → C s (.resume m) → I (resume m s))
    {s s' : QState} {op : Op} (hw : WF s) (hi : I s) (hc : C s op) (h : stepOp s op = .ok s') : I s' := by
  cases op with
  | pop n =>
    simp only [stepOp] at h
    split at h
    · cases h
    · rename_i out s1 hp
      cases h
      rw [popBuffer_refines hw (popBuffer_ok_pos hp)] at hp
      exact runTicks_preserves htick n hi hp
  | pause m => cases h; exact hpause m hi hc
  | resume m => cases h; exact hresume m hi hc

theorem stepOp_preserves {I : QState → Prop} (htick : ∀ {s c s'}, I s → tick s = .ok (c, s') → I s')
    (hpause : ∀ m {s}, I s → I (pause m s).1) (hresume : ∀ m {s}, I s → I (resume m s))
    {s s' : QState} {op : Op} (hw : WF s) (hi : I s) (h : stepOp s op = .ok s') : I s' :=
  stepOp_inv (C := fun _ _ => True) htick (fun m _ hi _ => hpause m hi) (fun m _ hi _ => hresume m hi)
    hw hi trivial h

theorem Good_step {s s' : QState} {op : Op} (hg : Good s) (h : stepOp s op = .ok s') : Good s' :=
  stepOp_preserves (I := Good)
    (fun hg ht => ⟨tick_WF hg.wf ht, Cons_tick hg.cons ht, Once_tick hg.once ht⟩)
    (fun m _ hg => ⟨WF_pause m hg.wf, Cons_pause m hg.cons, Once_pause m hg.once⟩)
    (fun m _ hg => ⟨WF_resume m hg.wf, Cons_resume m hg.cons, Once_resume m hg.once⟩) hg.wf hg h

theorem Good_run {ops : List Op} {s s' : QState} (hg : Good s) (h : runOps ops s = .ok s') : Good s' := by
  induction ops generalizing s with
  | nil => cases h; exact hg
  | cons op ops ih =>
    rw [runOps] at h
    split at h
    · cases h
    · rename_i s1 hs
      exact ih (Good_step hg hs) h

/-- After any history, for every stimulus: non-cancelled presentations logged + remaining trials =
requested trials, whatever the sign of the counter and the policy. -/
theorem conservation {ops : List Op} {s s' : QState} (hg : Good s) (h : runOps ops s = .ok s')
    (key : Nat) (e : Entry) (he : s'.data[key]? = some e) :
    keptOf s' key + e.trials = e.requested :=
  (Good_run hg h).cons key e he

/-- After any history the logged trials and the removed ones partition the notified trials: no trial is
removed twice and no logged trial was removed. -/
theorem removed_once {ops : List Op} {s s' : QState} (hg : Good s) (h : runOps ops s = .ok s') :
    (s'.generated.map (·.uid) ++ s'.removed).Perm (List.range s'.added.length) ∧
    s'.removed.Nodup ∧ (∀ u ∈ s'.removed, u ∉ s'.generated.map (·.uid)) := by
  have ho := (Good_run hg h).once
  exact ⟨ho, (Once_nodup ho).1, (Once_nodup ho).2.2.1⟩

/-- `pause(m)` cancels the trials ending after `m`: the `removed` notifications of this call are the logged
trials with `k + dur > m` (latest first), each restored (+1) to its stimulus; what stays logged ends by `m`. -/
theorem pause_cancels_exactly (m : Int) (s : QState) :
    (pause (some m) s).1.removed = s.removed ++ ((s.generated.reverse.filter (endsAfter m)).map (·.uid)) ∧
    (pause (some m) s).1.generated = s.generated.filter (fun i => !endsAfter m i) ∧
    (∀ i ∈ (pause (some m) s).1.generated, i.k + i.dur ≤ m) ∧
    (∀ key : Nat, (pause (some m) s).1.data[key]? =
      (s.data[key]?).map (fun e : Entry => { e with trials := e.trials +
        (((s.generated.filter (endsAfter m)).filter (fun i => i.key == key)).length : Nat) })) := by
  obtain ⟨hd, hg, hr, _⟩ := pause_fields m s
  refine ⟨hr, hg, ?_, ?_⟩
  · intro i hi
    rw [hg] at hi
    simp only [List.mem_filter, endsAfter, Bool.not_eq_true', decide_eq_false_iff_not] at hi
    omega
  · intro key
    rw [hd, foldl_setTrials_get]
    unfold toRequeue
    rw [count_requeue]

/-- A paused queue returns only zeros, starts no trial, notifies nothing. -/
theorem paused_silent {n : Nat} {s : QState} (hp : s.paused = true) (hn : 0 < n) :
    popBuffer n s = .ok (zeros n, { s with samples := s.samples + (n : Nat) }) := by
  obtain ⟨m, rfl⟩ : ∃ m, n = m + 1 := ⟨n - 1, (Nat.sub_add_cancel hn).symm⟩
  -- the first iteration returns all `m + 1` zeros, so the loop ends
  rw [popBuffer, if_neg (Nat.succ_ne_zero m), show 3 * (m + 1) + 3 = (3 * m + 5) + 1 from rfl, popLoop,
    popIter_eq_G, popIterG_paused hp]
  simp only [zeros_length, Nat.sub_self, popLoop, List.append_nil]

/-- `pause(m)` with `m` after the clock raises ValueError; otherwise it puts the clock at `m`. -/
theorem pause_future_rejected (m : Int) (s : QState) :
    ((pause (some m) s).2 = true ↔ m > s.samples) ∧
    (m ≤ s.samples → (pause (some m) s).1.samples = m) := by
  obtain ⟨_, _, _, _, _, _, _, hs, hb⟩ := pause_fields m s
  exact ⟨hb, fun hle => by rw [hs, if_neg (Int.not_lt.2 hle)]⟩

/-- After `pause(m)` (and any number of silent requests) and `resume(m₂)` nothing is pending and the clock
is `m₂`: the first trial of the next request starts at `m₂`. -/
theorem resume_position {n : Nat} {s s' : QState} {out : List Cell} (m₂ : Int) (hw : WF s)
    (hsrc : s.source = none) (hd : s.delaySamples = 0)
    (h : popBuffer n (resume (some m₂) s) = .ok (out, s')) :
    ∃ new, s'.added = s.added ++ new ∧ ∀ h0 : 0 < new.length, new[0].k = m₂ := by
  have hf : Fresh (resume (some m₂) s) := by simp [Fresh, resume, hsrc, hd]
  obtain ⟨new, ha, h0, _⟩ := gap_exact (WF_resume (some m₂) hw) hf h
  exact ⟨new, by simpa [resume] using ha, by simpa [resume] using h0⟩

/-- the state `pause(m)` leaves is the one `resume_position` asks for -/
theorem pause_leaves_nothing_pending (m : Int) (s : QState) :
    (pause (some m) s).1.source = none ∧ (pause (some m) s).1.delaySamples = 0 ∧
    (pause (some m) s).1.paused = true := by
  obtain ⟨_, _, _, _, hsrc, hdl, hp, _⟩ := pause_fields m s
  exact ⟨hsrc, hdl, hp⟩

theorem counts_of_conservation {kept trials requested : Int} (h : kept + trials = requested) :
    (trials = 0 → kept = requested) ∧ (trials ≤ 0 → kept ≥ requested) :=
  ⟨fun h0 => by rw [← h, h0, Int.add_zero], fun h0 => h ▸ Int.add_le_of_le_sub_left (by rw [Int.sub_self]; exact h0)⟩

/-- After any history, a stimulus with no trials remaining has its requested number of non-cancelled
presentations; with a negative counter (keep-completed policies) it has more. -/
theorem final_counts {ops : List Op} {s s' : QState} (hg : Good s) (h : runOps ops s = .ok s')
    (key : Nat) (e : Entry) (he : s'.data[key]? = some e) :
    (e.trials = 0 → keptOf s' key = e.requested) ∧ (e.trials ≤ 0 → keptOf s' key ≥ e.requested) :=
  counts_of_conservation (conservation hg h key e he)

def demo4 : QState := (append { kind := .fifo } ⟨10, false, 3, 3, [5], 0, 10⟩).1

example : Good demo4 := by
  apply Good_init <;> try rfl
  intro i e h
  simp only [demo4, append, List.nil_append] at h
  match i, h with
  | 0, h => simp at h; subst h; decide
  | n + 1, h => simp at h

/-- pause mid-waveform, resume, drain: 3 kept presentations, one removed, nothing remaining -/
example : (runOps [.pop 5, .pause (some 5), .resume (some 20), .pop 60] demo4).toOption.map
    (fun s => (keptOf s 0, s.removed, s.data.map (·.trials), s.added.map (·.k))) =
    some (3, [0], [0], [0, 20, 35, 50]) := by decide +kernel
example : ((popBuffer 5 demo4).toOption.map (fun r => (pause (some 1000) r.2).2)) = some true := by
  decide +kernel

end Psi.Queue

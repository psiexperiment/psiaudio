import PsiProofs.Helper.C12Ext_Acc
import PsiProofs.Helper.C12Ext_Average
/-!
# EXT12 — stages of psiaudio/pipeline.py that property C12 does not name

`delay`, `average`, `accumulate`, `mc_select`, `detrend`, `broadcast` (model: `PsiModel/StagesExt.lean`), over every
list of chunks.  Registered in `registry/EXT12.txt`, not part of the verdict of C12.  A theorem named `…_partial`
holds under a guard that excludes a behaviour of the unchanged library recorded in notes/EXT12.md; the excluded
input is exhibited after it.
-/
namespace Psi.StagesExt
open Psi.Stages
variable {α β ε ρ χ μ σ I O B : Type}

/-- `delay(n)`: `target` receives one plain block of `n` NaNs (already when the stage is created) and then the chunks
themselves, untouched -/
theorem delay_chunk_invariant (nan : α) (n : Nat) (cs : List (Arr α ρ χ μ)) :
    delayAll nan n cs = .ok (.plain (List.replicate n nan) :: cs) ∧
    (((Arr.plain (List.replicate n nan) : Arr α ρ χ μ) :: cs).map Arr.data).flatten
      = List.replicate n nan ++ (cs.map Arr.data).flatten := by
  constructor
  · have h := run_stateless (E := XErr) (delayStep (α := α) (ρ := ρ) (χ := χ) (μ := μ)) (fun c => [c]) (fun _ => rfl) cs
    simp [delayAll, h, delayCreate, List.flatMap_singleton']
  · simp [Arr.data]

example : delayAll (ρ := Unit) (χ := Unit) (μ := Unit) 0 2 [.plain [5], .plain [], .plain [6, 7]]
    = .ok [.plain [0, 0], .plain [5], .plain [], .plain [6, 7]] := (delay_chunk_invariant 0 2 _).1

/-- on a plain (`ndarray`) stream what `delay` emits can be concatenated -/
theorem delay_plain_stream_concat (nan : α) (n : Nat) (cs : List (List α)) :
    concatArr ((Arr.plain (List.replicate n nan) : Arr α ρ χ μ) :: cs.map Arr.plain)
      = .ok (.plain (List.replicate n nan ++ cs.flatten)) := by
  have hall : ((Arr.plain (List.replicate n nan) : Arr α ρ χ μ) :: cs.map Arr.plain).all (fun a => !a.isPd) = true :=
    List.all_eq_true.mpr fun a ha => by
      rcases List.mem_cons.mp ha with rfl | ha
      · rfl
      · obtain ⟨d, -, rfl⟩ := List.mem_map.mp ha; rfl
  have hdata : (cs.map (Arr.plain (ρ := ρ) (χ := χ) (μ := μ))).map Arr.data = cs :=
    (List.map_map ..).trans (List.map_id'' (fun _ => rfl) cs)
  unfold concatArr
  rw [hall, if_pos rfl, List.isEmpty_cons, if_neg Bool.false_ne_true, List.map_cons, hdata]
  rfl

example : concatArr ((Arr.plain [0, 0] : Arr Nat Unit Unit Unit) :: [[5], [], [6, 7]].map Arr.plain)
    = .ok (.plain [0, 0, 5, 6, 7]) := delay_plain_stream_concat 0 2 [[5], [], [6, 7]]

/-- annotated stream (recorded behaviour, notes/EXT12.md): the forwarded blocks are contiguous from the input's `s0`,
not from `s0 + n`, and, the NaN block being a plain `ndarray`, `concat` of everything emitted raises `ValueError` -/
theorem delay_annotated_time_base_not_shifted (nan : α) (n : Nat) (ann : Ann ρ χ μ) (s : Int) (cs : List (List α))
    (hne : cs ≠ []) :
    delayAll nan n ((stream ann s cs).map Arr.pd)
      = .ok (.plain (List.replicate n nan) :: (stream ann s cs).map Arr.pd) ∧
    Emits (stream ann s cs) cs.flatten 1 s ann ∧
    concatArr (Arr.plain (List.replicate n nan) :: (stream ann s cs).map Arr.pd) = .error .valueError := by
  refine ⟨(delay_chunk_invariant nan n _).1, stream_emits ann cs s, ?_⟩
  cases cs with
  | nil => exact absurd rfl hne
  | cons c cs => simp [concatArr, stream, Arr.isPd]

example : concatArr (Arr.plain [0, 0] :: (stream (⟨(), (), ()⟩ : Ann Unit Unit Unit) 5 [[1], [2, 3]]).map Arr.pd)
    = .error .valueError :=
  (delay_annotated_time_base_not_shifted 0 2 ⟨(), (), ()⟩ 5 [[1], [2, 3]] (by simp)).2.2

/-- `average(n)` as it is obeys its law (k-th emission = mean of the k-th group of `n` rows) only while there is no
complete group, i.e. while nothing is emitted -/
theorem average_chunk_invariant_partial (mean : List α → β) (n : Nat) (cs : List (List α))
    (guard : cs.flatten.length < n) :
    outs (run (averageStep n) none cs) = .ok ((blocksOf n cs.flatten).map mean) := by
  rw [outs_run_congr (averageStep_none n) cs, averageAsIs_run n cs [] (Nat.lt_of_le_of_lt (Nat.zero_le _) guard),
    if_pos (by simpa using guard), blocksOf_short n _ guard]
  rfl

example : outs (run (averageStep 3) none [[1], [], [2]]) = .ok ((blocksOf 3 [1, 2]).map List.sum) :=
  average_chunk_invariant_partial List.sum 3 [[1], [], [2]] (by decide)

/-- outside that guard the unchanged stage dies: as soon as `n` rows have arrived the send raises `IndexError`,
nothing having been passed to `target` -/
theorem average_raises_at_first_complete_group (n : Nat) (hn : 0 < n) (cs : List (List α))
    (h : n ≤ cs.flatten.length) :
    outs (run (averageStep (β := β) n) none cs) = .error .indexError := by
  rw [outs_run_congr (averageStep_none n) cs, averageAsIs_run n cs [] hn, if_neg (by simpa using h)]

example : outs (run (averageStep (β := Nat) 2) none [[1], [3]]) = .error .indexError ∧
    (blocksOf 2 [1, 3]).map List.sum = [4] := ⟨rfl, rfl⟩

/-- the repaired `average(n)` (notes/EXT12_fix_1.diff) obeys the law for every chunking -/
theorem averageFixed_chunk_invariant (mean : List α → β) (n : Nat) (hn : 0 < n) (cs : List (List α)) :
    outs (run (averageFixedStep mean n) none cs) = .ok ((blocksOf n cs.flatten).map mean) := by
  rw [outs_run_congr (averageFixedStep_none mean n) cs, averageFixed_run mean n hn cs [] (by simpa using hn)]
  rfl

example : outs (run (averageFixedStep List.sum 2) none [[1], [], [3, 5, 7], [9]]) = .ok [4, 12] := by
  rw [averageFixed_chunk_invariant List.sum 2 (by decide)]; rfl

/-- `accumulate(n)` on blocks without `Ellipsis`: the k-th object passed to `target` is the `concat` (`join`) of the
k-th group of `n` consecutive blocks, after `[np.newaxis]` (`nx`) when asked for; `status_cb` sees the buffered count
after every block; no `Ellipsis` is made up. -/
theorem accumulate_groups (n : Nat) (hn : 0 < n) (nx : B → B) (join : List B → Except XErr O) (j : List B → O)
    (cb : Bool) (bs : List B) (hj : ∀ g ∈ blocksOf n (bs.map nx), join g = .ok (j g)) :
    ∃ evs, run (accumulateStep n nx join cb) [] (bs.map Sig.data)
        = .ok (evs, (bs.map nx).drop (bs.length / n * n)) ∧
      emitted evs = (blocksOf n (bs.map nx)).map j ∧
      statuses evs = (if cb then (List.range bs.length).map (fun i => (i + 1) % n) else []) ∧
      restarts evs = 0 := by
  obtain ⟨evs, h1, h2, h3, h4⟩ := accumulate_run n hn nx join j cb bs [] (by simpa using hn) (by simpa using hj)
  refine ⟨evs, ?_, by simpa using h2, ?_, h4⟩
  · simpa using h1
  · rw [h3]; simp [statusSpec]

example : ∃ evs, run (accumulateStep 2 id (fun l => Except.ok l) true) [] ([10, 11, 12, 13, 14].map Sig.data)
      = .ok (evs, [14]) ∧ emitted evs = [[10, 11], [12, 13]] ∧ statuses evs = [1, 0, 1, 0, 1] ∧ restarts evs = 0 := by
  obtain ⟨evs, h1, h2, h3, h4⟩ := accumulate_groups 2 (by decide) id (fun l => Except.ok l) id true [10, 11, 12, 13, 14]
    (fun _ _ => rfl)
  exact ⟨evs, h1, by rw [h2]; decide, by rw [h3]; decide, h4⟩

/-- `Ellipsis` is passed on once, the incomplete group is dropped and what follows is processed as by a freshly created
`accumulate` -/
theorem accumulate_restart_like_fresh (n : Nat) (nx : B → B) (join : List B → Except XErr O) (cb : Bool)
    (st sx : List B) (xs ys : List (Sig B)) (ex : List (AccEv O))
    (hx : run (accumulateStep n nx join cb) st xs = .ok (ex, sx)) :
    run (accumulateStep n nx join cb) st (xs ++ Sig.restart :: ys)
      = (match run (accumulateStep n nx join cb) [] ys with
         | .ok (ey, sy) => .ok (ex ++ AccEv.restart :: ey, sy)
         | .error e => .error e) := by
  have hsig : accumulateStep n nx join cb sx .restart = .ok ([.restart], []) := rfl
  rw [run_append xs _ hx, run_cons hsig]
  cases run (accumulateStep n nx join cb) [] ys <;> rfl

example : run (accumulateStep 2 id (fun l => Except.ok l) false) [] [.data 1, .restart, .data 2, .data 3]
    = .ok ([.restart, .emit [2, 3]], []) := rfl

/-- `accumulate(n, axis=-1, newaxis=False)` on an annotated 1-D stream: `concat` never raises and the emitted blocks
are the joins of the complete groups of `n` chunks.  How much is held back depends on the chunking: the stage groups
chunks, not samples. -/
theorem accumulate_time_chunk_invariant (n : Nat) (hn : 0 < n) (cb : Bool) (ann : Ann ρ χ μ) (s : Int)
    (cs : List (List α)) :
    ∃ evs st, run (accumulateStep n id joinTime cb) [] ((stream ann s cs).map Sig.data) = .ok (evs, st) ∧
      Emits (emitted evs) (cs.take (cs.length / n * n)).flatten 1 s ann ∧
      (emitted evs).map (·.data) = (blocksOf n cs).map List.flatten ∧
      st.length = cs.length % n ∧ restarts evs = 0 := by
  obtain ⟨hj, hem, hdata⟩ := joined_groups ann n hn cs s
  obtain ⟨evs, h1, h2, -, h4⟩ := accumulate_groups n hn id joinTime (jt ann) cb (stream ann s cs)
    (by rw [List.map_id]; exact hj)
  rw [List.map_id] at h2
  refine ⟨evs, _, h1, by rw [h2]; exact hem, by rw [h2]; exact hdata, ?_, h4⟩
  rw [List.map_id, List.length_drop, stream_length]
  have h1 := Nat.div_add_mod cs.length n
  have h3 : n * (cs.length / n) = cs.length / n * n := Nat.mul_comm _ _
  omega

example : ∃ evs st, run (accumulateStep 2 id joinTime true) []
      ((stream (⟨(), (), ()⟩ : Ann Unit Unit Unit) 5 [[1], [], [2, 3], [4], [6]]).map Sig.data) = .ok (evs, st) ∧
    Emits (emitted evs) [1, 2, 3, 4] 1 5 ⟨(), (), ()⟩ ∧
    (emitted evs).map (·.data) = [[1], [2, 3, 4]] ∧ st.length = 1 ∧ restarts evs = 0 :=
  accumulate_time_chunk_invariant 2 (by decide) true ⟨(), (), ()⟩ 5 [[1], [], [2, 3], [4], [6]]

/-- Python's index normalisation -/
def pyIdx (i : Int) (len : Nat) : Option Nat :=
  if 0 ≤ i then (if i.toNat < len then some i.toNat else none)
  else if -(len : Int) ≤ i then some (i + len).toNat
  else none

theorem pyIdx_spec {i : Int} {n r : Nat} (h : pyIdx i n = some r) :
    r < n ∧ ∀ {β : Type} (l : List β), l.length = n → pyGet l i = l[r]? := by
  unfold pyIdx at h
  by_cases h0 : 0 ≤ i
  · rw [if_pos h0] at h
    by_cases h1 : i.toNat < n
    · rw [if_pos h1] at h; cases h
      exact ⟨h1, fun l _ => by rw [pyGet, if_pos h0]⟩
    · rw [if_neg h1] at h; cases h
  · rw [if_neg h0] at h
    by_cases h1 : -(n : Int) ≤ i
    · rw [if_pos h1] at h; cases h
      exact ⟨by omega, fun l hl => by rw [pyGet, if_neg h0, hl, if_pos h1]⟩
    · rw [if_neg h1] at h; cases h

/-- a stream of `nch × w` annotated chunks: `(w, rows)` -/
def stream2 (fs : ρ) (ch : List χ) (md : μ) : Int → List (Nat × List (List α)) → List (In2 α ρ χ μ)
  | _, [] => []
  | s, (w, rows) :: cs =>
    .pd { rows := rows, s0 := s, fs := fs, channel := ch, metadata := md } :: stream2 fs ch md (s + w) cs

/-- `np.concatenate(chunks, axis=-1)` of `nch`-row chunks: row by row -/
def hcat2 (nch : Nat) (cs : List (List (List α))) : List (List α) :=
  cs.foldr (fun c acc => List.zipWith (· ++ ·) c acc) (List.replicate nch [])

def selRows (r : Nat) : List (Nat × List (List α)) → Option (List (List α))
  | [] => some []
  | (_, rows) :: cs =>
    match rows[r]?, selRows r cs with
    | some row, some rest => some (row :: rest)
    | _, _ => none

/-- `mc_select(channel, labels)` whose `channel` resolves to position `r` (an `int`, possibly negative, or a label
found in `labels`) on an annotated `nch × time` stream: the concatenated output is row `r` of the time-concatenated
input, labelled `channel[r]` of the data -/
theorem mc_select_chunk_invariant (i : Int) (nch r : Nat) (hi : pyIdx i nch = some r)
    (fs : ρ) (ch : List χ) (lab : χ) (md : μ) (hch : ch.length = nch) (hlab : ch[r]? = some lab)
    (s : Int) (cs : List (Nat × List (List α)))
    (hrect : ∀ c ∈ cs, c.2.length = nch ∧ ∀ row ∈ c.2, row.length = c.1) :
    ∃ sel, selRows r cs = some sel ∧
      outs (run (mcSelectStep i) () (stream2 fs ch md s cs))
        = .ok ((stream ⟨fs, lab, md⟩ s sel).map Arr.pd) ∧
      Emits (stream ⟨fs, lab, md⟩ s sel) sel.flatten 1 s ⟨fs, lab, md⟩ ∧
      (hcat2 nch (cs.map (·.2)))[r]? = some sel.flatten := by
  have hr : r < nch := (pyIdx_spec hi).1
  induction cs generalizing s with
  | nil => exact ⟨[], rfl, rfl, stream_emits _ [] s, by simp [hcat2, hr]⟩
  | cons c cs ih =>
    obtain ⟨w, rows⟩ := c
    obtain ⟨hlen, hw⟩ := hrect (w, rows) List.mem_cons_self
    have hlt : r < rows.length := hlen ▸ hr
    obtain ⟨sel, hsel, hrun, -, hcat⟩ := ih (s + w) (fun c hc => hrect c (List.mem_cons_of_mem _ hc))
    have hstep : mcSelectStep i () (.pd { rows := rows, s0 := s, fs := fs, channel := ch, metadata := md })
        = .ok ([Arr.pd { data := rows[r], s0 := s, ann := ⟨fs, lab, md⟩ }], ()) := by
      simp only [mcSelectStep]
      rw [(pyIdx_spec hi).2 rows hlen, (pyIdx_spec hi).2 ch hch, hlab,
        List.getElem?_eq_getElem hlt]
    refine ⟨rows[r] :: sel, by simp only [selRows, List.getElem?_eq_getElem hlt, hsel], ?_, stream_emits _ _ s, ?_⟩
    · rw [stream2, outs_cons hstep, hrun, stream_cons, hw _ (List.getElem_mem hlt)]
      rfl
    · -- `np.concatenate` along time joins the rows one by one
      simp only [hcat2, List.map_cons, List.foldr_cons] at hcat ⊢
      rw [List.getElem?_zipWith, List.getElem?_eq_getElem hlt, hcat]
      simp

example : ∃ sel, selRows 1 [(2, [[1, 2], [3, 4]]), (0, [[], []]), (1, [[5], [6]])] = some sel ∧
    outs (run (mcSelectStep (-1)) () (stream2 () ["a", "b"] () 10 [(2, [[1, 2], [3, 4]]), (0, [[], []]), (1, [[5], [6]])]))
      = .ok ((stream ⟨(), "b", ()⟩ 10 sel).map Arr.pd) ∧
    Emits (stream ⟨(), "b", ()⟩ 10 sel) sel.flatten 1 10 ⟨(), "b", ()⟩ ∧
    (hcat2 2 ([(2, [[1, 2], [3, 4]]), (0, [[], []]), (1, [[5], [6]])].map (·.2)))[1]? = some sel.flatten :=
  mc_select_chunk_invariant (-1) 2 1 (by decide) () ["a", "b"] "b" () rfl rfl 10 _ (by decide)

/-- how `channel` is resolved when the stage is created: an `int` is taken as it is, a label is looked up in `labels`
(first occurrence) -/
theorem mc_select_resolution [DecidableEq χ] (c : χ) (ls : List χ) (i : Int) :
    mcSelectCreate (.idx i) (some ls) = .ok i ∧ mcSelectCreate (χ := χ) (.idx i) none = .ok i ∧
    (∀ k, ls.idxOf? c = some k → mcSelectCreate (.label c) (some ls) = .ok (k : Int)) ∧
    (ls.idxOf? c = none → mcSelectCreate (.label c) (some ls) = .error .valueError) ∧
    mcSelectCreate (.label c) none = .error .valueError := by
  refine ⟨rfl, rfl, ?_, ?_, rfl⟩
  · intro k hk; simp [mcSelectCreate, hk]
  · intro hk; simp [mcSelectCreate, hk]

example : mcSelectCreate (.label "b") (some ["a", "b", "b"]) = .ok 1 := rfl

namespace EIn
def epochs : EIn ε ρ χ μ → List ε
  | .plain es => es
  | .pd _ x => x.data
def mapEpochs (f : ε → ε) : EIn ε ρ χ μ → EIn ε ρ χ μ
  | .plain es => .plain (es.map f)
  | .pd nd x => .pd nd { x with data := x.data.map f }
/-- a `PipelineData` batch must be `epoch × channel × time` -/
def legal : EIn ε ρ χ μ → Prop
  | .plain _ => True
  | .pd nd _ => nd = 3
end EIn

def detrendFn (mode : Mode) (dt : ε → ε) : ε → ε := if mode = .none then id else dt

/-- `detrend(mode)` on batches of epochs, under the guard `mode ≠ 'linear' ∨ no batch is empty` (counterexample
below): every epoch is detrended on its own, annotations kept, whatever the batching -/
theorem detrend_chunk_invariant_partial (mode : Mode) (dt : ε → ε) (xs : List (EIn ε ρ χ μ))
    (hlegal : ∀ x ∈ xs, x.legal) (guard : mode ≠ .linear ∨ ∀ x ∈ xs, x.epochs ≠ []) :
    outs (run (detrendStep mode dt) () xs) = .ok (xs.map (EIn.mapEpochs (detrendFn mode dt))) ∧
    ((xs.map (EIn.mapEpochs (detrendFn mode dt))).map EIn.epochs).flatten
      = ((xs.map EIn.epochs).flatten).map (detrendFn mode dt) := by
  have hstep : ∀ x ∈ xs, detrendStep mode dt () x = .ok ([x.mapEpochs (detrendFn mode dt)], ()) := by
    intro x hx
    have hk : mode ≠ .none → detrendKernel mode dt x.epochs = .ok (x.epochs.map dt) := by
      intro _
      simp only [detrendKernel]
      rw [if_neg]
      rintro ⟨hl, he⟩
      rcases guard with g | g
      · exact g hl
      · exact g x hx (by simpa using he)
    cases x with
    | plain es =>
      by_cases hm : mode = .none
      · simp [detrendStep, hm, EIn.mapEpochs, detrendFn]
      · have := hk hm
        simp only [EIn.epochs] at this
        simp [detrendStep, hm, this, EIn.mapEpochs, detrendFn]
    | pd nd x =>
      have hnd : nd = 3 := hlegal _ hx
      subst hnd
      by_cases hm : mode = .none
      · simp [detrendStep, hm, EIn.mapEpochs, detrendFn]
      · have := hk hm
        simp only [EIn.epochs] at this
        simp [detrendStep, hm, this, EIn.mapEpochs, detrendFn]
  constructor
  · clear hlegal guard
    induction xs with
    | nil => rfl
    | cons x xs ih =>
      rw [outs_cons (hstep x List.mem_cons_self), ih fun y hy => hstep y (List.mem_cons_of_mem _ hy)]
      rfl
  · rw [List.map_map, List.map_flatten, List.map_map]
    congr 2
    funext x
    cases x <;> rfl

example : outs (run (detrendStep (ρ := Unit) (χ := Unit) (μ := String) .linear (· + 100)) ()
      [.plain [1, 2], .pd 3 ⟨[3], 7, ⟨(), (), ["m"]⟩⟩])
    = .ok [.plain [101, 102], .pd 3 ⟨[103], 7, ⟨(), (), ["m"]⟩⟩] :=
  (detrend_chunk_invariant_partial .linear (· + 100) _ (by simp [EIn.legal]) (Or.inr (by simp [EIn.epochs]))).1

/-- the input the guard excludes: `detrend('linear')` sent a batch without any epoch raises `ValueError`
(for `'constant'` and `None` the same batch passes) -/
example : outs (run (detrendStep (ρ := Unit) (χ := Unit) (μ := Unit) .linear (· + 100)) () [.plain [1], .plain []])
      = .error .valueError ∧
    outs (run (detrendStep (ρ := Unit) (χ := Unit) (μ := Unit) .constant (· + 100)) () [.plain [1], .plain []])
      = .ok [.plain [101], .plain []] := ⟨rfl, rfl⟩

/-- an annotated batch that is not 3-D is refused, whatever the mode -/
theorem detrend_refuses_non_epoch_pipeline_data (mode : Mode) (dt : ε → ε) (nd : Nat) (x : PD ε ρ χ (List μ))
    (h : nd ≠ 3) : detrendStep mode dt () (.pd nd x) = .error .valueError := by
  simp [detrendStep, h]

example : detrendStep (ρ := Unit) (χ := Unit) (μ := Unit) .none (fun x : Nat => x) () (.pd 2 ⟨[1], 0, ⟨(), (), []⟩⟩)
    = .error .valueError := detrend_refuses_non_epoch_pipeline_data _ _ 2 _ (by decide)

/-- `broadcast(t₀, …, t_{k-1})`: every target sees exactly the input stream -/
theorem broadcast_every_target_gets_the_stream (k : Nat) (cs : List I) :
    ∃ evs, outs (run (broadcastStep k) () cs) = .ok evs ∧
      ∀ j, j < k → (evs.filter (fun p => p.1 = j)).map (·.2) = cs := by
  have h := run_stateless (E := XErr) (broadcastStep (I := I) k) (fun d => (List.range k).map (fun j => (j, d)))
    (fun _ => rfl) cs
  refine ⟨_, by rw [h]; rfl, ?_⟩
  intro j hj
  clear h
  induction cs with
  | nil => rfl
  | cons c cs ih =>
    simp only [List.flatMap_cons, List.filter_append, List.map_append]
    rw [ih]
    simp only [List.filter_map, Function.comp_def]
    rw [List.filter_eq, List.count_range, if_pos hj]
    rfl

example : ∃ evs, outs (run (broadcastStep 2) () [7, 8]) = .ok evs ∧
    ∀ j, j < 2 → (evs.filter (fun p => p.1 = j)).map (·.2) = [7, 8] :=
  broadcast_every_target_gets_the_stream 2 [7, 8]

end Psi.StagesExt

import PsiProofs.Helper.C05_Seq
import PsiProofs.Helper.C05_SeqSpec
import PsiProofs.Helper.C05_Late
/-!
# C05 — epoch extraction returns exactly the requested samples, once, for any chunking

Model: `PsiModel/Extract.lean` (`Capture.feed` = `capture_epoch`, `step` = one `send` to
`extract_epochs`).  A history is a list of `Op`s: the chunk sent plus the requests, removals and
`source_complete` flag made visible since the previous `send`.  The theorems quantify over all
histories (any number of calls, chunk lengths including 0, any arrival call of every request and
removal), any sample type `α` (scalar or multichannel column), any buffer size.

`Valid B L ops`: request keys pairwise distinct, one epoch length `L` per extractor, every request
made visible while its first sample is still in the look-back window (`lookbackStart`, derived from
the prune rule; by `visible_of_recent`, "at most `B` samples past its start were acquired" suffices).

`ValidSeq B L ops` (the `…_seq` theorems) is wider: the real extractor tolerates a key re-used once
the earlier request carrying it is removed or delivered (a queue paused exactly on a trial's start
and resumed presents the same stimulus at the same `t0` again); `KeyOK` (Helper/C05_SeqDefs) is
that discipline.  What it excludes is exactly the code's
`ValueError('Duplicate epochs not supported')`.

The `calls_…` theorems: `queue` is shared, so a request may be appended while a call is running,
after the call's intake loop and before its done test — by `target` itself (a consumer that
schedules the next epoch when handed one) or by another thread.  A `Call` is an `Op` plus these
`late` requests; `step` is `call` with none.  A late request stays in `queue`: the done test must
see it (`len(queue) == 0`), and the next call takes it in ahead of its own requests.  `ValidCalls`
is `Valid` of the history as the intake loops see it (`effective`).
-/
namespace Psi.Extract

def Valid {α} (B L : Nat) (ops : List (Op α)) : Prop := AllValid B L [] ops

def deliveries {α} (B : Nat) (ops : List (Op α)) (k : Nat) : List (List (Epoch α)) :=
  (run (State.init B) ops).2.map (delivK k)

/-- The epochs delivered under the key of a request `r`, call by call, are those of the spec
`specDeliver`: nothing before its arrival nor while samples are missing, nothing ever once a
removal has been seen, and `stream[s, s+len)` with `r`'s own metadata in the first call whose chunk
reaches its last sample (the arrival call itself when the look-back buffer already holds it),
nothing afterwards. -/
theorem extract_refines_spec {α} (B L : Nat) (pre rest : List (Op α)) (op : Op α) (r : Request)
    (hv : Valid B L (pre ++ op :: rest)) (hr : r ∈ op.reqs) :
    deliveries B (pre ++ op :: rest) r.key =
      pre.map (fun _ => []) ++
        (specDeliver r (total pre) (op :: rest)).map (emit (streamOf (pre ++ op :: rest)) r) := by
  rw [deliveries, (run_seq_init B L _ (allValidSeq_of_allValid B L [] _ hv)).2.2 r.key,
    (spec_of_valid B L pre rest op r hv hr).1, List.map_append, List.map_map, List.map_map]
  congr 2
  funext b
  cases b <;> rfl

/-- Over the whole run — whatever follows the segment `opj :: mid`, later removals included —
exactly one epoch is delivered under `r`'s key, and it is `stream[s, s+len)` carrying `r`'s
metadata. -/
theorem delivered_exact {α} (B L : Nat) (pre mid post : List (Op α)) (opj : Op α) (r : Request)
    (hv : Valid B L (pre ++ (opj :: mid) ++ post)) (hr : r ∈ opj.reqs)
    (hnorem : ∀ o ∈ opj :: mid, r.key ∉ o.rems)
    (hend : r.s.toNat + r.len ≤ total pre + total (opj :: mid)) :
    (deliveries B (pre ++ (opj :: mid) ++ post) r.key).flatten =
      [epochOf (streamOf (pre ++ (opj :: mid) ++ post)) r] := by
  have e : pre ++ (opj :: mid) ++ post = pre ++ opj :: (mid ++ post) := by simp
  rw [e] at hv ⊢
  rw [extract_refines_spec B L pre (mid ++ post) opj r hv hr]
  exact spec_once _ r pre (opj :: mid) post (total pre) (List.cons_ne_nil _ _) hnorem hend

/-- A request removed before its last sample arrived is never delivered (`seg = []`: the removal
is seen in the arrival call itself, and then no condition on the samples is needed). -/
theorem removed_never_delivered {α} (B L : Nat) (pre seg post : List (Op α)) (opi : Op α) (r : Request)
    (hv : Valid B L (pre ++ (seg ++ opi :: post)))
    (hr : ∃ op0 tl, seg ++ [opi] = op0 :: tl ∧ r ∈ op0.reqs)
    (hrem : r.key ∈ opi.rems)
    (hearly : seg = [] ∨ total pre + total seg < r.s.toNat + r.len) :
    (deliveries B (pre ++ (seg ++ opi :: post)) r.key).flatten = [] := by
  obtain ⟨op0, tl, htl, hr0⟩ := hr
  have e : seg ++ opi :: post = op0 :: (tl ++ post) := by
    have : seg ++ opi :: post = (seg ++ [opi]) ++ post := by simp
    rw [this, htl]; rfl
  have hspec := spec_never (streamOf (pre ++ (seg ++ opi :: post))) r pre seg post opi (total pre) hrem hearly
  rw [e] at hv hspec ⊢
  rw [extract_refines_spec B L pre (tl ++ post) op0 r hv hr0]
  exact hspec

/-- Removal after completion is a no-op: two valid histories that agree up to and including the
call that completed `r` and have equally many later calls deliver `r`'s epoch in the same call,
whatever removals arrive later. -/
theorem removed_after_completion_noop {α} (B L : Nat) (pre mid post post' : List (Op α)) (opj : Op α)
    (r : Request)
    (hv : Valid B L (pre ++ opj :: (mid ++ post))) (hv' : Valid B L (pre ++ opj :: (mid ++ post')))
    (hr : r ∈ opj.reqs) (hnorem : ∀ o ∈ opj :: mid, r.key ∉ o.rems)
    (hend : r.s.toNat + r.len ≤ total pre + total (opj :: mid)) (hlen : post'.length = post.length) :
    (deliveries B (pre ++ opj :: (mid ++ post')) r.key).map List.length =
      (deliveries B (pre ++ opj :: (mid ++ post)) r.key).map List.length := by
  rw [extract_refines_spec B L pre (mid ++ post) opj r hv hr,
    extract_refines_spec B L pre (mid ++ post') opj r hv' hr]
  have := spec_tail_irrelevant r (opj :: mid) post post' (total pre) (by simp) hnorem hend hlen
  simp only [List.cons_append] at this
  rw [this]
  simp only [List.map_append, List.map_map]
  congr 1
  apply List.map_congr_left
  intro b _
  cases b <;> simp [emit]

/-- In a valid history the extractor never raises, and every epoch it hands to its target is
`stream[s, s+len)` of the request it carries (`e.req`, i.e. its `info`/`metadata`), which is one
of the requests made. -/
theorem metadata_paired {α} (B L : Nat) (ops : List (Op α)) (hv : Valid B L ops) :
    ∀ out ∈ (run (State.init B) ops).2, ∃ batch fired, out = .ok batch fired ∧
      ∀ e ∈ batch, e = epochOf (streamOf ops) e.req ∧ e.req ∈ allReqs ops ∧ e.data.length = L :=
  (run_seq_init B L ops (allValidSeq_of_allValid B L [] ops hv)).2.1

/-- The done callback fires at most once, in every history (valid or not). -/
theorem done_at_most_once {α} (B : Nat) (ops : List (Op α)) :
    ((run (State.init B) ops).2.filter Outcome.fired).length ≤ 1 := by
  rw [run_is_runCalls]
  exact calls_done_count (State.init B) _

/-- The done callback fires only when the source is flagged complete, no capture is pending (and
the queue has just been drained), and it has not fired before; it then stays disabled. -/
theorem done_only_when {α} (st : State α) (op : Op α) (h : (step st op).2.fired = true) :
    op.complete = true ∧ (step st op).1.pending = [] ∧ (step st op).1.queue = [] ∧
      st.doneFired = false ∧ (step st op).1.doneFired = true := by
  obtain ⟨h1, h2, h3, _, h4, h5⟩ := (call_done st { op with late := [] }).1 h
  exact ⟨h1, h2, h3, h4, h5⟩

/-- The done callback fires as soon as, in a valid history, the source is complete and nothing is
pending after a call (unless it fired earlier). -/
theorem done_fires {α} (B L : Nat) (pre : List (Op α)) (op : Op α) (hv : Valid B L (pre ++ [op]))
    (hcomplete : op.complete = true)
    (hpend : (run (State.init B) (pre ++ [op])).1.pending = []) :
    (run (State.init B) (pre ++ [op])).1.doneFired = true := by
  have hmem : (step (run (State.init B) pre).1 op).2 ∈ (run (State.init B) (pre ++ [op])).2 := by
    rw [run_append]; exact List.mem_append_right _ List.mem_cons_self
  obtain ⟨batch, fired, ho, _⟩ := metadata_paired B L _ hv _ hmem
  simp only [run_append, run] at hpend ⊢
  exact call_ok_fired _ { op with late := [] } batch fired ho hcomplete hpend
    (call_ok_doneFired _ _ batch fired ho).2

/-- If after a valid history no capture is pending (as `done_only_when` guarantees whenever the
callback fires), every request made so far has been removed or has received its last sample
(hence, by `extract_refines_spec`, been delivered). -/
theorem pending_empty_all_settled {α} (B L : Nat) (pre rest : List (Op α)) (op : Op α) (r : Request)
    (hv : Valid B L (pre ++ op :: rest)) (hr : r ∈ op.reqs)
    (hpend : (run (State.init B) (pre ++ op :: rest)).1.pending = []) :
    specPending r (total pre) (op :: rest) = false := by
  have hopen := (run_seq_init B L _ (allValidSeq_of_allValid B L [] _ hv)).1 r.key
  rw [pendK, hpend, (spec_of_valid B L pre rest op r hv hr).2] at hopen
  cases hp : specPending r (total pre) (op :: rest)
  · rfl
  · rw [hp] at hopen; cases hopen

/-- stream 10..17 in chunks 3+0+5, look-back 2.  Key 8 = [11,15) is requested in call 0 and removed in
call 2.  Keys 7 = [12,16) and 9 = [14,18) are requested in call 2 only: key 7 starts in the chunk of
call 0, which the look-back buffer still holds. -/
def exOps : List (Op Nat) :=
  [ { chunk := [10, 11, 12], reqs := [⟨8, 1, 4, 80⟩], rems := [], complete := false },
    { chunk := [], reqs := [], rems := [], complete := false },
    { chunk := [13, 14, 15, 16, 17], reqs := [⟨7, 2, 4, 70⟩, ⟨9, 4, 4, 90⟩], rems := [8], complete := true } ]

theorem exOps_valid : Valid 2 4 exOps := by
  refine ⟨⟨by decide, by decide, by decide, by decide⟩, ⟨by decide, by decide, by decide, by decide⟩,
    ⟨by decide, by decide, by decide, by decide⟩, trivial⟩

example : Valid 2 4 exOps := exOps_valid

example : (run (State.init 2) exOps).2.map (fun o => match o with
      | .ok b f => (b.map (fun e => (e.req.key, e.data)), f) | _ => ([], false)) =
    [([], false), ([], false), ([(7, [12, 13, 14, 15]), (9, [14, 15, 16, 17])], true)] := by decide +kernel

example : (deliveries 2 exOps 7).flatten = [epochOf (streamOf exOps) ⟨7, 2, 4, 70⟩] :=
  delivered_exact 2 4 (exOps.take 2) [] [] (exOps[2]'(by decide)) ⟨7, 2, 4, 70⟩ exOps_valid
    (by decide) (by decide) (by decide)

example : (deliveries 2 exOps 8).flatten = [] :=
  removed_never_delivered 2 4 [] (exOps.take 2) [] (exOps[2]'(by decide)) ⟨8, 1, 4, 80⟩ exOps_valid
    ⟨exOps[0]'(by decide), exOps.drop 1, rfl, by decide⟩ (by decide) (Or.inr (by decide))

def ValidSeq {α} (B L : Nat) (ops : List (Op α)) : Prop := AllValidSeq B L [] ops

/-- pairwise distinct keys are a special case of the key discipline -/
theorem valid_validSeq {α} (B L : Nat) (ops : List (Op α)) (h : Valid B L ops) : ValidSeq B L ops :=
  allValidSeq_of_allValid B L [] ops h

/-- `r` is the request of call `op` that is taken in under its key: the removals of this call
naming the key are used up by the capture pending under it after `pre` (if any) and by the earlier
requests of this call with the same key (each swallowed by the `skip` list).  With distinct keys:
"no removal of this call names `r`". -/
def TakenIn {α} (pre : List (Op α)) (op : Op α) (r : Request) : Prop :=
  ∃ a b, op.reqs = a ++ r :: b ∧
    (a.filter (fun q => q.key == r.key)).length = skipCount r.key (openAfter r.key pre) op

/-- With keys re-used under `KeyOK`, the epochs delivered under any key `κ`, call by call, are
those of the per-key spec machine `specReqs` (state: the one request being captured under `κ`; per
call: removals first — one hits the pending capture, the others swallow the first requests of the
call —, then the chunk, then the requests): at most one epoch per call, `stream[s, s+len)` of the
very request the machine names. -/
theorem extract_refines_spec_seq {α} (B L : Nat) (ops : List (Op α)) (hv : ValidSeq B L ops) (κ : Nat) :
    deliveries B ops κ =
      (specReqs κ 0 none ops).map (fun o => o.toList.map (epochOf (streamOf ops))) :=
  (run_seq_init B L ops hv).2.2 κ

theorem takenIn_taken {α} (B L : Nat) (pre mid post : List (Op α)) (op : Op α) (r : Request)
    (hv : ValidSeq B L (pre ++ (op :: mid) ++ post)) (ht : TakenIn pre op r) :
    takenK r.key (openAfter r.key pre) op = [r] := by
  rw [List.append_assoc] at hv
  have hv : OpValidSeq B L pre op := ((allValidSeq_append B L [] pre _).1 hv).2.1
  obtain ⟨a, b, hab, hcount⟩ := ht
  have hadds : addsK r.key op = a.filter (fun q => q.key == r.key) ++ r :: b.filter (fun q => q.key == r.key) := by
    simp [addsK, hab, List.filter_append]
  have htk : takenK r.key (openAfter r.key pre) op = r :: b.filter (fun q => q.key == r.key) := by
    unfold takenK
    rw [hadds, ← hcount, List.drop_left]
  have hle := (hv.reuse r.key).1
  rw [htk] at hle ⊢
  simp only [List.length_cons] at hle
  have : b.filter (fun q => q.key == r.key) = [] :=
    List.length_eq_zero_iff.1 (Nat.le_zero.1 (Nat.le_of_succ_le_succ hle))
  rw [this]

def deliveriesIn {α} (B : Nat) (ops : List (Op α)) (k a n : Nat) : List (List (Epoch α)) :=
  ((deliveries B ops k).drop a).take n

theorem window_spec {α} (B L : Nat) (pre win post : List (Op α)) (κ : Nat)
    (hv : ValidSeq B L (pre ++ win ++ post)) :
    (deliveriesIn B (pre ++ win ++ post) κ pre.length win.length).flatten =
      ((specReqs κ (total pre) (openAfter κ pre) win).filterMap id).map
        (epochOf (streamOf (pre ++ win ++ post))) := by
  unfold deliveriesIn
  rw [extract_refines_spec_seq B L _ hv κ, List.append_assoc, specReqs_append, List.map_append,
    List.drop_left' (by simp [specReqs_length]), specReqs_append, List.map_append,
    List.take_left' (by simp [specReqs_length]), flatten_emit]
  simp [openAfter]

/-- `delivered_exact` per request: `r` is taken in under its key by `opj`, and the window `mid`
is quiet for the key (`mid` may be extended up to the call that re-uses the key; with distinct
keys: to the end). -/
theorem delivered_exact_seq {α} (B L : Nat) (pre mid post : List (Op α)) (opj : Op α) (r : Request)
    (hv : ValidSeq B L (pre ++ (opj :: mid) ++ post)) (ht : TakenIn pre opj r)
    (hnoreq : ∀ o ∈ mid, ∀ q ∈ o.reqs, q.key ≠ r.key) (hnorem : ∀ o ∈ mid, r.key ∉ o.rems)
    (hend : r.s.toNat + r.len ≤ total pre + total (opj :: mid)) :
    (deliveriesIn B (pre ++ (opj :: mid) ++ post) r.key pre.length (mid.length + 1)).flatten =
      [epochOf (streamOf (pre ++ (opj :: mid) ++ post)) r] := by
  have htk := takenIn_taken B L pre mid post opj r hv ht
  have hw := window_spec B L pre (opj :: mid) post r.key hv
  simp only [List.length_cons] at hw
  rw [hw, ((spec_window r.key (total pre) _ r opj mid htk hnoreq hnorem).1 hend).1]
  rfl

/-- `removed_never_delivered` per request.  The conjuncts: the calls `op0 :: seg` deliver nothing
under the key; `r` was still the request being captured under it; the removal discards it —
whatever call `opi` delivers under the key, and whatever is being captured under it afterwards, is
a request made in `opi` itself (a re-use of the key), never `r`'s capture. -/
theorem removed_never_delivered_seq {α} (B L : Nat) (pre seg post : List (Op α)) (op0 opi : Op α)
    (r : Request)
    (hv : ValidSeq B L (pre ++ (op0 :: seg) ++ opi :: post)) (ht : TakenIn pre op0 r)
    (hnoreq : ∀ o ∈ seg, ∀ q ∈ o.reqs, q.key ≠ r.key) (hnorem : ∀ o ∈ seg, r.key ∉ o.rems)
    (hrem : r.key ∈ opi.rems)
    (hearly : total pre + total (op0 :: seg) < r.s.toNat + r.len) :
    (deliveriesIn B (pre ++ (op0 :: seg) ++ opi :: post) r.key pre.length (seg.length + 1)).flatten = [] ∧
    openAfter r.key (pre ++ (op0 :: seg)) = some r ∧
    ∀ q, (keyEmit r.key (total (pre ++ (op0 :: seg))) (some r) opi = some q ∨
          openAfter r.key (pre ++ (op0 :: seg) ++ [opi]) = some q) → q ∈ opi.reqs := by
  have htk := takenIn_taken B L pre seg (opi :: post) op0 r hv ht
  have hw := window_spec B L pre (op0 :: seg) (opi :: post) r.key hv
  simp only [List.length_cons] at hw
  obtain ⟨s1, s2⟩ := (spec_window r.key (total pre) _ r op0 seg htk hnoreq hnorem).2 hearly
  have hopen : openAfter r.key (pre ++ (op0 :: seg)) = some r := by
    simp only [openAfter, openK_append, Nat.zero_add]; exact s2
  refine ⟨by rw [hw, s1]; rfl, hopen, ?_⟩
  intro q hq
  rw [openAfter_snoc, hopen] at hq
  -- the removal rules out that `q` is what was open before: `opi` takes it in
  exact (takenK_sub r.key _ opi q ((key_origin r.key _ (some r) opi q hq).resolve_left (fun h => h.2.1 hrem))).1

/-- `metadata_paired` with keys re-usable: on a history in `ValidSeq` the extractor never raises,
and every epoch it hands over is `stream[s, s+len)` of the request it carries. -/
theorem metadata_paired_seq {α} (B L : Nat) (ops : List (Op α)) (hv : ValidSeq B L ops) :
    ∀ out ∈ (run (State.init B) ops).2, ∃ batch fired, out = .ok batch fired ∧
      ∀ e ∈ batch, e = epochOf (streamOf ops) e.req ∧ e.req ∈ allReqs ops ∧ e.data.length = L :=
  (run_seq_init B L ops hv).2.1

/-- stream 10..16 in chunks 3+1+3, look-back 4.  Key 8 = [11,15): requested in call 0 (tag 80);
call 1 sees its removal *and* the same key again (tag 81, same samples) — the re-presented trial;
call 2 sees key 9 requested twice and removed once: the removal swallows the first request. -/
def exSeq : List (Op Nat) :=
  [ { chunk := [10, 11, 12], reqs := [⟨8, 1, 4, 80⟩], rems := [], complete := false },
    { chunk := [13], reqs := [⟨8, 1, 4, 81⟩], rems := [8], complete := false },
    { chunk := [14, 15, 16], reqs := [⟨9, 2, 4, 90⟩, ⟨9, 2, 4, 91⟩], rems := [9], complete := true } ]

theorem exSeq_valid : ValidSeq 4 4 exSeq := by
  have key : ∀ (hist : List (Op Nat)) (op : Op Nat) (ks : List Nat),
      (∀ q ∈ op.reqs, q.key ∈ ks) → (∀ κ ∈ ks, KeyOK κ (openAfter κ hist) op) →
      ∀ κ, KeyOK κ (openAfter κ hist) op := by
    intro hist op ks h1 h2 κ
    by_cases hk : κ ∈ ks
    · exact h2 κ hk
    · exact keyOK_of_no_adds κ _ op (addsK_nil_of κ op (fun q hq he => hk (he ▸ h1 q hq)))
  refine ⟨⟨by decide, by decide, key _ _ [8] (by decide) (by decide)⟩,
    ⟨by decide, by decide, key _ _ [8] (by decide) (by decide)⟩,
    ⟨by decide, by decide, key _ _ [9] (by decide) (by decide)⟩, trivial⟩

example : ¬ Valid 4 4 exSeq := by
  intro h
  exact h.2.1.fresh ⟨8, 1, 4, 81⟩ (by decide) ⟨8, 1, 4, 80⟩ (by decide) rfl

example : (run (State.init 4) exSeq).2.map (fun o => match o with
      | .ok b f => (b.map (fun e => (e.req.tag, e.data)), f) | _ => ([], false)) =
    [([], false), ([], false), ([(81, [11, 12, 13, 14]), (91, [12, 13, 14, 15])], true)] := by decide +kernel

example : (deliveriesIn 4 exSeq 8 1 2).flatten = [epochOf (streamOf exSeq) ⟨8, 1, 4, 81⟩] :=
  delivered_exact_seq 4 4 (exSeq.take 1) (exSeq.drop 2) [] (exSeq[1]'(by decide)) ⟨8, 1, 4, 81⟩ exSeq_valid
    ⟨[], [], rfl, by decide⟩ (by decide) (by decide) (by decide)

example : (deliveriesIn 4 exSeq 8 0 1).flatten = [] :=
  (removed_never_delivered_seq 4 4 [] [] (exSeq.drop 2) (exSeq[0]'(by decide)) (exSeq[1]'(by decide))
    ⟨8, 1, 4, 80⟩ exSeq_valid
    ⟨[], [], rfl, by decide⟩ (by decide) (by decide) (by decide) (by decide)).1

/-- The point `ValidSeq` excludes: a key re-used while the earlier request with it is still being
captured (its removal not yet seen).  The extractor raises — line 829,
`ValueError('Duplicate epochs not supported')` — and is dead afterwards. -/
theorem duplicate_key_rejected :
    (run (State.init 4)
      [ ({ chunk := [10, 11, 12], reqs := [⟨8, 1, 4, 80⟩], rems := [], complete := false } : Op Nat),
        { chunk := [13], reqs := [⟨8, 1, 4, 81⟩], rems := [], complete := false },
        { chunk := [14], reqs := [], rems := [8], complete := false } ]).2.map
      (fun o => match o with | .ok _ _ => 0 | .valueError => 1 | .dead => 2) = [0, 1, 2] := by decide +kernel

def ValidCalls {α} (B L : Nat) (cs : List (Call α)) : Prop := Valid B L (effective [] cs)

def deliveriesCalls {α} (B : Nat) (cs : List (Call α)) (k : Nat) : List (List (Epoch α)) :=
  (runCalls (State.init B) cs).2.map (delivK k)

theorem sim_init {α} (B : Nat) (cs : List (Call α)) :
    Sim (runCalls (State.init B) cs).1 (run (State.init B) (effective [] cs)).1 ∧
    (runCalls (State.init B) cs).2.map Outcome.unfire =
      (run (State.init B) (effective [] cs)).2.map Outcome.unfire :=
  runCalls_sim cs (State.init B) (State.init B) [] ⟨rfl, rfl, rfl, rfl, rfl⟩ rfl (fun _ => rfl)

theorem deliveriesCalls_eq {α} (B : Nat) (cs : List (Call α)) (k : Nat) :
    deliveriesCalls B cs k = deliveries B (effective [] cs) k := by
  have h1 : ∀ (l : List (Outcome α)), l.map (delivK k) = (l.map Outcome.unfire).map (delivK k) := by
    intro l
    rw [List.map_map]
    apply List.map_congr_left
    intro o _
    exact (delivK_unfire k o).symm
  unfold deliveriesCalls deliveries
  rw [h1, (sim_init B cs).2, ← h1]

theorem effective_split {α} (pre rest : List (Call α)) (c : Call α) :
    effective [] (pre ++ c :: rest) =
      effective [] pre ++ { c.toOp with reqs := queueAfter [] pre ++ c.reqs } :: effective c.late rest := by
  rw [effective_append]; rfl

/-- `r` is taken in by call `c`: one of `c`'s own requests, or left in `queue` by the calls before
(appended during the last of them).  The epochs delivered under its key, call by call, are those
of `specDeliver` — which looks at chunks and removals only. -/
theorem calls_refine_spec {α} (B L : Nat) (pre rest : List (Call α)) (c : Call α) (r : Request)
    (hv : ValidCalls B L (pre ++ c :: rest)) (hr : r ∈ queueAfter [] pre ++ c.reqs) :
    deliveriesCalls B (pre ++ c :: rest) r.key =
      pre.map (fun _ => []) ++
        (specDeliver r (total (plain pre)) (plain (c :: rest))).map
          (emit (streamOf (plain (pre ++ c :: rest))) r) := by
  unfold ValidCalls at hv
  rw [deliveriesCalls_eq, ← streamOf_effective [], effective_split] at *
  rw [extract_refines_spec B L _ _ _ r hv hr, effective_map_const, total_effective]
  have : specDeliver r (total (plain pre))
        ({ c.toOp with reqs := queueAfter [] pre ++ c.reqs } :: effective c.late rest) =
      specDeliver r (total (plain pre)) (plain (c :: rest)) :=
    specDeliver_effective r (total (plain pre)) (queueAfter [] pre) (c :: rest)
  rw [this]

/-- `delivered_exact` for calls: `r` is an own request of `cj` or was left in `queue` by the call
before. -/
theorem calls_delivered_exact {α} (B L : Nat) (pre mid post : List (Call α)) (cj : Call α) (r : Request)
    (hv : ValidCalls B L (pre ++ (cj :: mid) ++ post)) (hr : r ∈ queueAfter [] pre ++ cj.reqs)
    (hnorem : ∀ o ∈ cj :: mid, r.key ∉ o.rems)
    (hend : r.s.toNat + r.len ≤ total (plain pre) + total (plain (cj :: mid))) :
    (deliveriesCalls B (pre ++ (cj :: mid) ++ post) r.key).flatten =
      [epochOf (streamOf (plain (pre ++ (cj :: mid) ++ post))) r] := by
  have e : pre ++ (cj :: mid) ++ post = pre ++ cj :: (mid ++ post) := by simp
  rw [e] at hv ⊢
  rw [calls_refine_spec B L pre (mid ++ post) cj r hv hr]
  have hp : plain (cj :: (mid ++ post)) = plain (cj :: mid) ++ plain post := by simp [plain]
  have hn : ∀ o ∈ plain (cj :: mid), r.key ∉ o.rems := by
    intro o ho
    obtain ⟨c, hc, rfl⟩ := List.mem_map.1 ho
    exact hnorem c hc
  rw [hp]
  exact spec_once _ r pre (plain (cj :: mid)) (plain post) (total (plain pre)) (List.cons_ne_nil _ _) hn hend

/-- `removed_never_delivered` for calls. -/
theorem calls_removed_never_delivered {α} (B L : Nat) (pre seg post : List (Call α)) (ci : Call α)
    (r : Request) (hv : ValidCalls B L (pre ++ (seg ++ ci :: post)))
    (hr : ∃ c0 tl, seg ++ [ci] = c0 :: tl ∧ r ∈ queueAfter [] pre ++ c0.reqs)
    (hrem : r.key ∈ ci.rems)
    (hearly : seg = [] ∨ total (plain pre) + total (plain seg) < r.s.toNat + r.len) :
    (deliveriesCalls B (pre ++ (seg ++ ci :: post)) r.key).flatten = [] := by
  obtain ⟨c0, tl, htl, hr0⟩ := hr
  have e : seg ++ ci :: post = c0 :: (tl ++ post) := by
    have : seg ++ ci :: post = (seg ++ [ci]) ++ post := by simp
    rw [this, htl]; rfl
  have hearly' : plain seg = [] ∨ total (plain pre) + total (plain seg) < r.s.toNat + r.len :=
    hearly.imp (fun h => by rw [h]; rfl) id
  have hspec := spec_never (streamOf (plain (pre ++ (seg ++ ci :: post)))) r pre (plain seg) (plain post)
    ci.toOp (total (plain pre)) hrem hearly'
  have hp : plain seg ++ ci.toOp :: plain post = plain (seg ++ ci :: post) := by simp [plain]
  rw [hp, e] at hspec
  rw [e] at hv ⊢
  rw [calls_refine_spec B L pre (tl ++ post) c0 r hv hr0]
  exact hspec

/-- `metadata_paired` for calls: the request an epoch carries was made in the caller's turn or
during a call. -/
theorem calls_metadata_paired {α} (B L : Nat) (cs : List (Call α)) (hv : ValidCalls B L cs) :
    ∀ out ∈ (runCalls (State.init B) cs).2, ∃ batch fired, out = .ok batch fired ∧
      ∀ e ∈ batch, e = epochOf (streamOf (plain cs)) e.req ∧ e.req ∈ allMade cs ∧ e.data.length = L := by
  intro out hout
  have hmem : out.unfire ∈ (run (State.init B) (effective [] cs)).2.map Outcome.unfire := by
    rw [← (sim_init B cs).2]; exact List.mem_map_of_mem hout
  obtain ⟨out', hout', he⟩ := List.mem_map.1 hmem
  obtain ⟨batch, fired, ho, hall⟩ := metadata_paired B L (effective [] cs) hv out' hout'
  rw [ho] at he
  obtain ⟨f', hf'⟩ := unfire_eq_ok out batch fired he.symm
  refine ⟨batch, f', hf', ?_⟩
  intro e hb
  obtain ⟨h1, h2, h3⟩ := hall e hb
  rw [streamOf_effective] at h1
  refine ⟨h1, ?_, h3⟩
  rcases allReqs_effective_sub [] cs e.req h2 with h | h
  · cases h
  · exact h

/-- The done callback fires at most once, in every history of calls (valid or not). -/
theorem calls_done_at_most_once {α} (B : Nat) (cs : List (Call α)) :
    ((runCalls (State.init B) cs).2.filter Outcome.fired).length ≤ 1 :=
  calls_done_count (State.init B) cs

/-- The done callback fires only when the source is flagged complete, no capture is pending,
`queue` is empty — no request was appended to it since the intake loop of this very call — and it
has not fired before; it then stays disabled. -/
theorem calls_done_only_when {α} (st : State α) (c : Call α) (h : (call st c).2.fired = true) :
    c.complete = true ∧ (call st c).1.pending = [] ∧ (call st c).1.queue = [] ∧ c.late = [] ∧
      st.doneFired = false ∧ (call st c).1.doneFired = true :=
  (call_done st c).1 h

/-- The done callback fires as soon as, in a valid history of calls, the source is complete,
nothing is pending and the queue is empty after a call (unless it fired earlier). -/
theorem calls_done_fires {α} (B L : Nat) (pre : List (Call α)) (c : Call α)
    (hv : ValidCalls B L (pre ++ [c])) (hcomplete : c.complete = true)
    (hpend : (runCalls (State.init B) (pre ++ [c])).1.pending = [])
    (hqueue : (runCalls (State.init B) (pre ++ [c])).1.queue = []) :
    (runCalls (State.init B) (pre ++ [c])).1.doneFired = true := by
  have hok := calls_metadata_paired B L (pre ++ [c]) hv
    (call (runCalls (State.init B) pre).1 c).2 (by simp [runCalls_append, runCalls])
  obtain ⟨batch, fired, ho, _⟩ := hok
  simp only [runCalls_append, runCalls] at hpend hqueue ⊢
  exact call_ok_fired _ c batch fired ho hcomplete hpend hqueue

/-- `pending_empty_all_settled` for calls. -/
theorem calls_pending_empty_all_settled {α} (B L : Nat) (pre rest : List (Call α)) (c : Call α)
    (r : Request) (hv : ValidCalls B L (pre ++ c :: rest)) (hr : r ∈ queueAfter [] pre ++ c.reqs)
    (hpend : (runCalls (State.init B) (pre ++ c :: rest)).1.pending = []) :
    specPending r (total (plain pre)) (plain (c :: rest)) = false := by
  unfold ValidCalls at hv
  have hp := (sim_init B (pre ++ c :: rest)).1.2.1
  rw [hpend, effective_split] at hp
  rw [effective_split] at hv
  have := pending_empty_all_settled B L _ _ _ r hv hr hp.symm
  rw [total_effective] at this
  rw [← this]
  exact (specPending_effective r (total (plain pre)) (queueAfter [] pre) (c :: rest)).symm

/-- If the callback fires in the last call of a valid history of calls, every request made so far
— in the caller's turn or during a call, this one included — was taken in by the intake loop of
some call (none is left in `queue`) and is settled since: removed, or its last sample has arrived,
in which case by `calls_refine_spec` its epoch was delivered in that call, not later. -/
theorem calls_done_after_all_settled {α} (B L : Nat) (hist : List (Call α)) (last : Call α)
    (hv : ValidCalls B L (hist ++ [last]))
    (hf : (call (runCalls (State.init B) hist).1 last).2.fired = true) :
    ∀ r ∈ allMade (hist ++ [last]), ∃ pre c rest, hist ++ [last] = pre ++ c :: rest ∧
      r ∈ queueAfter [] pre ++ c.reqs ∧
      specPending r (total (plain pre)) (plain (c :: rest)) = false := by
  obtain ⟨_, hpend, _, hlate, _, _⟩ := calls_done_only_when _ last hf
  have hq : queueAfter [] (hist ++ [last]) = [] := by
    have : ∀ (q : List Request) (l : List (Call α)), queueAfter q (l ++ [last]) = last.late := by
      intro q l
      induction l generalizing q with
      | nil => rfl
      | cons x xs ih => simpa [queueAfter] using ih x.late
    rw [this, hlate]
  intro r hr
  obtain ⟨pre, c, rest, e, hin⟩ := made_taken [] (hist ++ [last]) r (Or.inr hr) hq
  refine ⟨pre, c, rest, e, hin, ?_⟩
  rw [e] at hv
  apply calls_pending_empty_all_settled B L pre rest c r hv hin
  rw [← e]
  simpa [runCalls_append, runCalls] using hpend

/-- stream 10..17 in chunks 4+2+2, no look-back needed.  Key 1 = [11,13) is requested before the
first call; when its epoch is handed over (call 0), the consumer posts key 2 = [14,16): late in
call 0, taken in by call 1, complete in call 1.  The source is complete throughout. -/
def exCalls : List (Call Nat) :=
  [ { chunk := [10, 11, 12, 13], reqs := [⟨1, 1, 2, 10⟩], rems := [], complete := true, late := [⟨2, 4, 2, 20⟩] },
    { chunk := [14, 15], reqs := [], rems := [], complete := true, late := [] },
    { chunk := [16, 17], reqs := [], rems := [], complete := true, late := [] } ]

theorem exCalls_valid : ValidCalls 0 2 exCalls := by
  refine ⟨⟨by decide, by decide, by decide, by decide⟩, ⟨by decide, by decide, by decide, by decide⟩,
    ⟨by decide, by decide, by decide, by decide⟩, trivial⟩

theorem exCalls_valid_2 : ValidCalls 0 2 (exCalls.take 2) := by
  refine ⟨⟨by decide, by decide, by decide, by decide⟩, ⟨by decide, by decide, by decide, by decide⟩,
    trivial⟩

/-- the callback does not fire in call 0 (the queue holds key 2) but in call 1, after the delivery -/
example : (runCalls (State.init 0) exCalls).2.map (fun o => match o with
      | .ok b f => (b.map (fun e => (e.req.key, e.data)), f) | _ => ([], false)) =
    [([(1, [11, 12])], false), ([(2, [14, 15])], true), ([], false)] := by decide +kernel

example : (deliveriesCalls 0 exCalls 2).flatten = [epochOf (streamOf (plain exCalls)) ⟨2, 4, 2, 20⟩] :=
  calls_delivered_exact 0 2 (exCalls.take 1) [] (exCalls.drop 2) (exCalls[1]'(by decide)) ⟨2, 4, 2, 20⟩ exCalls_valid
    (by decide) (by decide) (by decide)

/-- non-vacuity of `calls_done_after_all_settled`: its hypotheses are met at call 1 -/
example : ∀ r ∈ allMade ([exCalls[0]] ++ [exCalls[1]]), ∃ pre c rest,
    [exCalls[0]] ++ [exCalls[1]] = pre ++ c :: rest ∧ r ∈ queueAfter [] pre ++ c.reqs ∧
      specPending r (total (plain pre)) (plain (c :: rest)) = false :=
  calls_done_after_all_settled 0 2 [exCalls[0]'(by decide)] (exCalls[1]'(by decide)) exCalls_valid_2
    (by decide +kernel)

example : (runCalls (State.init 0) ([exCalls[0]] ++ [exCalls[1]])).1.doneFired = true :=
  calls_done_fires 0 2 [exCalls[0]'(by decide)] (exCalls[1]'(by decide)) exCalls_valid_2 (by decide)
    (by decide +kernel) (by decide +kernel)

end Psi.Extract

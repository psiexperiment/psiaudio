import PsiModel.Epochs
import PsiProofs.Helper.C18_Epochs
import PsiProofs.Helper.C18_Runs
import PsiProofs.Helper.C18_Smooth
/-! C18 — `util.epochs`, `smooth_epochs`, `debounce_epochs` against their declarative specifications. -/
namespace Psi.Epochs

/-- `util.epochs` (with its special cases and both boundary fix-ups) never raises and returns the maximal runs of
`true`. -/
theorem epochs_eq_runs : ∀ x : List Bool, epochs x = .ok (maximalRuns x) := by
  intro x
  cases x with
  | nil => rfl
  | cons b xs =>
    have hlen : (b :: xs).length = 1 + xs.length := by simp; omega
    rw [epochs_of_alternating (b :: xs) b (final b xs) (risingIdx 1 b xs) (fallingIdx 1 b xs) rfl rfl rfl
      (length_rel xs 1 b)
      (by rw [hlen]; exact risingIdx_bounds xs 1 b)
      (by rw [hlen]; exact fallingIdx_bounds xs 1 b)
      (head_cmp xs 1 b) (last_cmp xs 1 b), hlen]
    cases b <;> simp [maximalRuns, runsAux, runsAux_eq_zip]

example : epochs [true, true, false, true] = .ok [(0, 2), (3, 4)] := rfl

theorem maximalRuns_sound : ∀ (x : List Bool) (p : Nat × Nat),
    p ∈ maximalRuns x → IsMaximalRun x p.1 p.2 := by
  intro x p hp
  exact runsAux_sound x x.length 0 none (Nat.zero_add _) (Or.inl rfl) p hp

/-- consecutive runs are separated by at least one sample. -/
theorem maximalRuns_sorted : ∀ x : List Bool,
    (maximalRuns x).Pairwise (fun p q => p.2 < q.1) :=
  fun x => runsAux_sorted x 0 none

theorem maximalRuns_complete : ∀ (x : List Bool) (i : Nat), x[i]? = some true →
    ∃ p ∈ maximalRuns x, p.1 ≤ i ∧ i < p.2 := by
  intro x i hi
  obtain ⟨p, hp, h1, h2⟩ := (runsAux_complete x 0 none (fun _ h => by cases h)).2 i hi
  exact ⟨p, hp, by omega, by omega⟩

theorem maximalRuns_mem_iff : ∀ (x : List Bool) (s e : Nat),
    (s, e) ∈ maximalRuns x ↔ IsMaximalRun x s e := by
  intro x s e
  constructor
  · exact maximalRuns_sound x (s, e)
  · intro h
    -- the returned run that holds sample `s` is maximal too, and two maximal runs that share a sample coincide
    obtain ⟨⟨s', e'⟩, hp, hs1, hs2⟩ := maximalRuns_complete x s (h.2.2.1 s (Nat.le_refl _) h.1)
    have g := maximalRuns_sound x _ hp
    have hlt : s' < e := Nat.lt_of_le_of_lt hs1 h.1
    rw [Nat.le_antisymm (h.start_le g hs2) (g.start_le h hlt),
      Nat.le_antisymm (g.end_le h hs2) (h.end_le g hlt)]
    exact hp

example : IsMaximalRun [false, true, true, false] 1 3 := by
  refine ⟨by decide, by decide, ?_, Or.inr rfl, Or.inr rfl⟩
  intro i h1 h2
  have : i = 1 ∨ i = 2 := by omega
  rcases this with h | h <;> subst h <;> rfl

/-- `util.smooth_epochs` (sort each column independently, sweep with `ub := next.ub`) returns the sorted disjoint
cover (pair-sort, join when overlapping or touching, keep the maximum end) of every list of intervals with `lb ≤ ub`,
nested or not. -/
theorem smooth_eq_cover : ∀ I : List (Int × Int),
    (∀ p ∈ I, p.1 ≤ p.2) → smoothEpochs I = sortedDisjointCover I := by
  intro I h
  unfold smoothEpochs sortedDisjointCover
  rw [sortPairs_map_fst]
  have hperm : (sortInts (I.map (·.2))).Perm ((sortPairs I).map (·.2)) :=
    (sortInts_perm _).trans ((sortPairs_perm I).symm.map _)
  have hsorted := sortPairs_sorted I
  have hle : ∀ p ∈ sortPairs I, p.1 ≤ p.2 := fun p hp => h p ((sortPairs_perm I).mem_iff.mp hp)
  have hB := sortInts_sorted (I.map (·.2))
  generalize sortInts (I.map (·.2)) = B at hperm hB
  generalize sortPairs I = P at hperm hsorted hle
  cases P with
  | nil => simp [sweep]
  | cons p P =>
    obtain ⟨a, c⟩ := p
    cases B with
    | nil => have := hperm.length_eq; simp at this
    | cons b B =>
      simp only [List.map_cons, List.zip_cons_cons, sweep]
      exact sweepGo_eq_coverGo P [c] [b] B a b c hsorted.tail
        (fun q hq => hle q (List.mem_cons_of_mem _ hq)) hB hperm rfl rfl
        (fun x hx => by simp at hx; omega) (by simp)

-- nested and unordered intervals: the column sort pairs (1,4),(2,3),(6,7) as (1,3),(2,4),(6,7)
example : (∀ p ∈ [((6 : Int), (7 : Int)), (2, 3), (1, 4)], p.1 ≤ p.2) ∧
    smoothEpochs [(6, 7), (2, 3), (1, 4)] = [(1, 4), (6, 7)] := by
  refine ⟨by decide, by decide⟩

/-- `debounce_spec` under the weaker hypothesis that each column is non-decreasing: the column sorts of `smooth_epochs`
then do nothing, and its sweep over the padded runs is the join. -/
theorem debounce_spec_colSorted : ∀ (e : List (Int × Int)) (d : Int),
    ColSorted e → debounceEpochs e d = debounceSpec e d := by
  intro e d h
  unfold debounceEpochs debounceSpec
  simp only
  rw [smoothEpochs_of_colSorted ((h.filter _).pad d), sweep_pad]

/-- `util.debounce_epochs` = drop the runs shorter than `d`, then join survivors whose gap is `≤ d`.  The hypothesis
`0 ≤ d` is not needed by the proof; the property only speaks of such limits. -/
theorem debounce_spec : ∀ (e : List (Int × Int)) (d : Int),
    SortedDisjoint e → 0 ≤ d → debounceEpochs e d = debounceSpec e d :=
  fun e d h _ => debounce_spec_colSorted e d h.colSorted

/-- what `epochs` returns always satisfies the hypothesis of `debounce_spec`. -/
theorem maximalRuns_sortedDisjoint : ∀ x : List Bool,
    SortedDisjoint ((maximalRuns x).map (fun p => ((p.1 : Int), (p.2 : Int)))) := by
  intro x
  refine ⟨?_, ?_⟩
  · intro p hp
    obtain ⟨q, hq, rfl⟩ := List.mem_map.mp hp
    have := (maximalRuns_sound x q hq).1
    simp only; omega
  · refine List.Pairwise.map _ ?_ (maximalRuns_sorted x)
    intro a b hab
    simp only; omega

example : SortedDisjoint [(0, 2), (3, 4), (9, 12)] ∧ (0 : Int) ≤ 2 ∧
    debounceEpochs [(0, 2), (3, 4), (9, 12)] 2 = [(0, 2), (9, 12)] := by
  refine ⟨⟨by decide, by decide⟩, by decide, by decide⟩

end Psi.Epochs

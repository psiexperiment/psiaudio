import PsiProofs.Helper.C03_Runs
import PsiProofs.C04
/-!
C03 — each stimulus gets its requested trials in the policy order, then silence.

The FIFO theorems that come first hold from any state satisfying `FifoInv`. The others start from a
`Loaded` queue (constructor + ≥ 1 `append`s: any number of stimuli, trial counts ≥ 1, waveform lengths
≥ 1), for any chunking `ns` of positive requests and every oracle of random choices. They are
statements about the `added` log (`keyLog`) after `runTicks ns.sum` of the per-sample spec, carried to
every chunking by C02 (`popAll_ticks`). Counts after pauses are `conservation` / `final_counts` (C04).
-/
namespace Psi.Queue

/-- A well-formed FIFO queue answers every request: `pop_buffer` never raises. -/
theorem fifo_no_exception {n : Nat} {s : QState} (hw : WF s) (hi : FifoInv s) (hn : 0 < n) :
    ∃ out s', popBuffer n s = .ok (out, s') ∧ WF s' ∧ FifoInv s' := by
  obtain ⟨cs, s', hr, hw', hi', _⟩ := fifo_run n hw hi
  exact ⟨cs, s', by rw [popBuffer_refines hw hn, hr], hw', hi'⟩

/-- FIFO order from any state: the keys notified so far followed by every key still in the ordering,
each as often as it has trials remaining, is invariant under requests of any size. -/
theorem fifo_log {n : Nat} {s s' : QState} {out : List Cell} (hw : WF s) (hi : FifoInv s)
    (h : popBuffer n s = .ok (out, s')) :
    s'.added.map (·.key) ++ s'.ordering.flatMap (fun k => List.replicate (trialsOf s' k).toNat k) =
    s.added.map (·.key) ++ s.ordering.flatMap (fun k => List.replicate (trialsOf s k).toNat k) := by
  obtain ⟨cs, s2, hr, _, _, hk⟩ := fifo_run n hw hi
  rw [popBuffer_refines hw (popBuffer_ok_pos h), hr] at h
  simp only [Except.ok.injEq, Prod.mk.injEq] at h
  obtain ⟨_, rfl⟩ := h
  exact hk

/-- Once a FIFO queue that had notified nothing has run dry, it has notified the stimuli in insertion
order, each its requested number of times. -/
theorem fifo_log_complete {n : Nat} {s s' : QState} {out : List Cell} (hw : WF s) (hi : FifoInv s)
    (hnew : s.added = []) (h : popBuffer n s = .ok (out, s')) (hdry : s'.ordering = []) :
    s'.added.map (·.key) = s.ordering.flatMap (fun k => List.replicate (trialsOf s k).toNat k) := by
  have := fifo_log hw hi h
  simpa [hdry, hnew] using this

/-- With an empty ordering every counter is 0, so `count_trials()` is 0. -/
theorem fifo_terminal_counts {s : QState} (hi : FifoInv s) (hdry : s.ordering = []) :
    nextKey s = .ok none ∧ (∀ (i : Nat) (e : Entry), s.data[i]? = some e → e.trials = 0) := by
  refine ⟨fifo_nextKey_nil hi hdry, ?_⟩
  intro i e he
  exact hi.done i e he (by simp [hdry])

/-- Every policy: when nothing is pending and the policy has no next key, a request returns only zeros,
flags the queue empty, starts nothing, changes no counter, and leaves the queue in the same situation. -/
theorem terminal_silence {n : Nat} {s : QState} (hw : WF s) (hp : s.paused = false) (hd : Dry s)
    (hn : 0 < n) :
    popBuffer n s = .ok (zeros n, { s with empty := true, samples := s.samples + (n : Nat) }) ∧
    Dry { s with empty := true, samples := s.samples + (n : Nat) } := by
  obtain ⟨m, rfl⟩ : ∃ m, n = m + 1 := ⟨n - 1, by omega⟩
  refine ⟨?_, ?_⟩
  · rw [popBuffer_refines hw hn]
    exact runTicks_empty m s hp hd.1 hd.2.1 hd.2.2
  · exact ⟨hd.1, hd.2.1, nextKey_none_indep _ _ hd.2.2⟩

theorem requested_nextTrial {s s1 : QState} (hn : nextTrial s = .ok (some s1)) :
    s1.data.map (·.requested) = s.data.map (·.requested) := by
  obtain ⟨info, _, hd⟩ := nextTrial_data hn
  apply List.ext_getElem?
  intro i
  simp only [List.getElem?_map, hd i]
  split
  · cases s.data[i]? <;> simp
  · rfl

/-- Every policy: no request changes `requested_trials` of any stimulus, hence
`count_requested_trials()`. -/
theorem requested_unchanged {n : Nat} {s s' : QState} {out : List Cell} (hw : WF s)
    (h : popBuffer n s = .ok (out, s')) : countRequested s' = countRequested s := by
  rw [popBuffer_refines hw (popBuffer_ok_pos h)] at h
  unfold countRequested
  rw [runTicks_preserves (I := fun t => t.data.map (·.requested) = s.data.map (·.requested))
    (tickD_preserves (d := true) (fun hb hi => by rw [hb]; exact hi)
      (fun hi hn => (requested_nextTrial hn).trans hi)) n rfl h]

section Loaded
variable {ns : List Nat} {s s' : QState} {out : List Cell}

/-- A queue of any policy/option with ≥ 1 stimuli (trial counts ≥ 1, waveforms of ≥ 1 sample, delays
≥ 0, group size ≥ 1, oracle streams long enough) answers every sequence of positive requests:
`pop_buffer` never raises, never hangs in `Interleaved.next_key`, and the loop fuel `3n+3` suffices.
Termination needs waveform length ≥ 1 (see notes for the real code on empty waveforms). -/
theorem no_exception (hl : Loaded s) (hpos : ∀ n ∈ ns, 0 < n) (hne : ns ≠ []) (ho : OracleOK ns.sum s) :
    ∃ out s', popAll ns s = .ok (out, s') ∧ WF s' := by
  rw [popAll_ticks hl.wf hpos hne]
  obtain ⟨cs, s', h, hw, _⟩ := run_loaded ns.sum hl ho
  exact ⟨cs, s', h, hw⟩

/-- Every policy: `is_empty()` is only ever true when `next_key` has nothing left (`Done`: ordering
exhausted, resp. `_complete` set). -/
theorem empty_done (hl : Loaded s) (hpos : ∀ n ∈ ns, 0 < n) (hne : ns ≠ [])
    (h : popAll ns s = .ok (out, s')) (hE : s'.empty = true) : Done s' := by
  rw [popAll_ticks hl.wf hpos hne] at h
  exact runTicks_preserves (I := EmptyDone) tick_emptyDone ns.sum
    (fun h0 => by rw [hl.empty] at h0; cases h0) h hE

/-- Every policy: once the policy is done, every remaining-trials counter is ≤ 0, `count_trials()` is 0,
and every stimulus was presented at least its requested number of times. -/
theorem done_no_trials (hl : Loaded s) (hpos : ∀ n ∈ ns, 0 < n) (hne : ns ≠ []) (ho : OracleOK ns.sum s)
    (h : popAll ns s = .ok (out, s')) (hd : Done s') :
    countTrials s' = 0 ∧ (∀ k, k < s.data.length → trialsOf s' k ≤ 0) ∧
    ∀ k, k < s.data.length → trialsOf s k ≤ (((keyLog s').count k : Nat) : Int) := by
  obtain ⟨hb, hle⟩ := popAll_ran hl.wf hpos hne (run_loaded ns.sum hl ho) h
  have hle := hle hd
  have hlen : s'.data.length = s.data.length := hb.len
  refine ⟨countTrials_zero (by rw [hlen]; exact hle), hle, ?_⟩
  intro k hk
  have h1 : trv (view s').data k ≤ 0 := hle k hk
  rw [hb.led k hk] at h1
  exact Int.le_of_sub_nonpos h1

/-- FIFO, random, interleaved without completed waveforms: no stimulus is ever presented more often than
requested, and once the policy is done each was presented its requested number of times. -/
theorem exact_counts (hl : Loaded s) (hpos : ∀ n ∈ ns, 0 < n) (hne : ns ≠ []) (ho : OracleOK ns.sum s)
    (hk : s.kind = .fifo ∨ s.kind = .random ∨ (s.kind = .interleaved ∧ s.keep = false))
    (h : popAll ns s = .ok (out, s')) :
    (∀ k, k < s.data.length → (((keyLog s').count k : Nat) : Int) ≤ trialsOf s k) ∧
    (Done s' → ∀ k, k < s.data.length → (((keyLog s').count k : Nat) : Int) = trialsOf s k) := by
  rcases hk with hk | hk | ⟨hk, hkeep⟩
  · have hi := popAll_ran hl.wf hpos hne (run_fifo ns.sum hl hk) h
    have he := hi.core.base.exact hi.core.nonneg
    exact ⟨he.1, fun hd => he.2 (hi.core.done_le ((Done_iff_empty (Or.inl hi.kind)).mp hd))⟩
  · have hi := popAll_ran hl.wf hpos hne (run_random ns.sum hl hk (ho.draws hk)) h
    have he := hi.core.base.exact hi.core.nonneg
    exact ⟨he.1, fun hd => he.2 (hi.core.done_le ((Done_iff_empty (Or.inr (Or.inl hi.kind))).mp hd))⟩
  · have hi := popAll_ran hl.wf hpos hne (run_skip ns.sum hl hk hkeep) h
    have he := hi.base.exact hi.nonneg
    exact ⟨he.1, fun hd => he.2 (hi.closed ((Done_iff_complete (Or.inl hi.kind)).mp hd))⟩

/-- FIFO: every trial is the first (in insertion order) stimulus not yet satisfied. -/
theorem fifo_first_unsatisfied (hl : Loaded s) (hk : s.kind = .fifo) (hpos : ∀ n ∈ ns, 0 < n)
    (hne : ns ≠ []) (h : popAll ns s = .ok (out, s')) (j : Nat) (hj : j < (keyLog s').length) :
    (unsatList s.data.length (reqAt s) ((keyLog s').take j)).head? = some (keyLog s')[j] := by
  exact (popAll_ran hl.wf hpos hne (run_fifo ns.sum hl hk) h).pick j hj

/-- Interleaved, completed waveforms kept: strict round-robin, `log[j] = j % n` (= `ordering[j % n]`, keys
are insertion indices), and no trial is started when all stimuli were already satisfied. -/
theorem interleaved_round_robin (hl : Loaded s) (hk : s.kind = .interleaved) (hkeep : s.keep = true)
    (hpos : ∀ n ∈ ns, 0 < n) (hne : ns ≠ []) (h : popAll ns s = .ok (out, s')) :
    (∀ j (hj : j < (keyLog s').length),
      (keyLog s')[j] = j % s.data.length ∧ s.ordering[j % s.data.length]? = some (keyLog s')[j]) ∧
    (∀ m, m < (keyLog s').length →
      ∃ k, k < s.data.length ∧ ((((keyLog s').take m).count k : Nat) : Int) < trialsOf s k) := by
  have hi := popAll_ran hl.wf hpos hne (run_rr ns.sum hl hk hkeep) h
  refine ⟨fun j hj => ⟨hi.rr j hj, ?_⟩, hi.first⟩
  rw [hl.ordering, List.getElem?_range (Nat.mod_lt _ hl.pos)]
  exact congrArg some (hi.rr j hj).symm

/-- Interleaved, completed waveforms dropped: every trial is the next unsatisfied stimulus after the
previous one in cyclic insertion order (`NextUnsat`: `d` places further, unsatisfied itself, everything
passed over is satisfied). -/
theorem interleaved_nokeep_order (hl : Loaded s) (hk : s.kind = .interleaved) (hkeep : s.keep = false)
    (hpos : ∀ n ∈ ns, 0 < n) (hne : ns ≠ []) (h : popAll ns s = .ok (out, s'))
    (j : Nat) (hj : j < (keyLog s').length) :
    NextUnsat s.data.length (reqAt s) (lastOr ((keyLog s').take j)) ((keyLog s').take j) (keyLog s')[j] := by
  exact (popAll_ran hl.wf hpos hne (run_skip ns.sum hl hk hkeep) h).order j hj

/-- Random: trial `j` is entry `draws[j] % len` of the list of stimuli (insertion order) presented fewer
times than requested. -/
theorem random_pick (hl : Loaded s) (hk : s.kind = .random) (hpos : ∀ n ∈ ns, 0 < n) (hne : ns ≠ [])
    (ho : OracleOK ns.sum s) (h : popAll ns s = .ok (out, s')) (j : Nat) (hj : j < (keyLog s').length) :
    ∃ d, s.draws[j]? = some d ∧
      (unsatList s.data.length (reqAt s) ((keyLog s').take j))[
        d % (unsatList s.data.length (reqAt s) ((keyLog s').take j)).length]? = some (keyLog s')[j] := by
  exact (popAll_ran hl.wf hpos hne (run_random ns.sum hl hk (ho.draws hk)) h).pick j hj

/-- Blocked random: the log is a prefix of the concatenation of the oracle's shuffles (each a permutation
of all stimuli, consumed from its end as `list.pop()` does): `b` whole blocks minus a remainder shorter
than a block; and no trial is started once all stimuli were satisfied. -/
theorem blocked_random_blocks (hl : Loaded s) (hk : s.kind = .blockedRandom) (hpos : ∀ n ∈ ns, 0 < n)
    (hne : ns ≠ []) (ho : OracleOK ns.sum s) (h : popAll ns s = .ok (out, s')) :
    keyLog s' <+: s.perms.flatMap List.reverse ∧
    (∃ b rest, b ≤ s.perms.length ∧ rest.length < s.data.length ∧
      keyLog s' ++ rest = (s.perms.take b).flatMap List.reverse) ∧
    (∀ p ∈ s.perms, p.reverse.Perm (List.range s.data.length)) ∧
    (∀ m, m < (keyLog s').length →
      ∃ k, k < s.data.length ∧ ((((keyLog s').take m).count k : Nat) : Int) < trialsOf s k) := by
  have hi := popAll_ran hl.wf hpos hne (run_blocked ns.sum hl hk (ho.perms hk).1 (ho.perms hk).2) h
  obtain ⟨b, hb, _, hcat⟩ := hi.blocks
  have hcat' : keyLog s' ++ s'.block.reverse = (s.perms.take b).flatMap List.reverse := hcat
  refine ⟨⟨s'.block.reverse ++ (s.perms.drop b).flatMap List.reverse, ?_⟩,
    ⟨b, s'.block.reverse, hb, by rw [List.length_reverse]; exact hi.blockLt.1, hcat'⟩,
    fun p hp => (List.reverse_perm p).trans ((ho.perms hk).2 p hp), hi.first⟩
  rw [← List.append_assoc, hcat', ← List.flatMap_append, List.take_append_drop]

/-- Grouped / blocked FIFO: every trial is a `GroupPick`: all earlier groups are satisfied, the trial's
own group is not, and the trial sits one place after the previous one, cyclically within its group
(the last group may be smaller than `group_size`). -/
theorem grouped_order (hl : Loaded s) (hk : s.kind = .grouped) (hpos : ∀ n ∈ ns, 0 < n) (hne : ns ≠ [])
    (h : popAll ns s = .ok (out, s')) (j : Nat) (hj : j < (keyLog s').length) :
    (keyLog s')[j] < s.data.length ∧
    GroupPick s.data.length (reqAt s) s.gsize ((keyLog s').take j) (keyLog s')[j] := by
  have hi := popAll_ran hl.wf hpos hne (run_grouped ns.sum hl hk) h
  exact ⟨hi.base.keysLt _ (List.getElem_mem hj), hi.order j hj⟩

/-- The group index `key / group_size` never decreases along the log. -/
theorem grouped_groups_sequential (hl : Loaded s) (hk : s.kind = .grouped) (hpos : ∀ n ∈ ns, 0 < n)
    (hne : ns ≠ []) (h : popAll ns s = .ok (out, s')) (i j : Nat) (hij : i ≤ j)
    (hj : j < (keyLog s').length) :
    (keyLog s')[i]'(by omega) / s.gsize ≤ (keyLog s')[j] / s.gsize := by
  refine GroupPick.group_le ?_ (grouped_order hl hk hpos hne h i (by omega)).2
    (grouped_order hl hk hpos hne h j hj).2
  rw [show (keyLog s').take i = ((keyLog s').take j).take i by rw [List.take_take, Nat.min_eq_left hij]]
  exact List.take_sublist _ _

theorem lastMod_eq_lastOr {g : Nat} {L : List Nat} (h : ∀ k ∈ L, k < g) : lastMod g L = lastOr L := by
  unfold lastMod lastOr
  cases hL : L.getLast? with
  | none => rfl
  | some k => simp only; rw [Nat.mod_eq_of_lt (h k (List.mem_of_getLast? hL))]

/-- Blocked FIFO: with `group_size ≥ n` (`BlockedFIFOSignalQueue` sets it to `n`) the one group holds
all stimuli, `log[j] = j % n`, and no trial is started once all stimuli were satisfied. -/
theorem blocked_fifo_round_robin (hl : Loaded s) (hk : s.kind = .grouped) (hg : s.data.length ≤ s.gsize)
    (hpos : ∀ n ∈ ns, 0 < n) (hne : ns ≠ []) (h : popAll ns s = .ok (out, s')) :
    (∀ j (hj : j < (keyLog s').length), (keyLog s')[j] = j % s.data.length) ∧
    (∀ m, m < (keyLog s').length →
      ∃ k, k < s.data.length ∧ ((((keyLog s').take m).count k : Nat) : Int) < trialsOf s k) := by
  have hlt : ∀ k ∈ keyLog s', k < s.data.length :=
    (popAll_ran hl.wf hpos hne (run_grouped ns.sum hl hk) h).base.keysLt
  refine ⟨?_, ?_⟩
  · intro j
    induction j using Nat.strongRecOn with
    | _ j ih =>
      intro hj
      obtain ⟨hkj, _, _, h4⟩ := grouped_order hl hk hpos hne h j hj
      -- one group of `n`: offsets are the keys themselves, so the cursor rule is that of `lastOr`
      have hm := lastOr_mod (n := s.data.length) ((keyLog s').take j) (fun i hi' => by
        rw [List.length_take] at hi'
        rw [List.getElem_take]
        exact ih i (Nat.lt_of_lt_of_le hi' (Nat.min_le_left _ _))
          (Nat.lt_of_lt_of_le hi' (Nat.min_le_right _ _)))
      have hkg := Nat.lt_of_lt_of_le hkj hg
      rw [List.length_take, Nat.min_eq_left (Nat.le_of_lt hj)] at hm
      rw [Nat.div_eq_of_lt hkg, Nat.mod_eq_of_lt hkg,
        Nat.mul_zero, Nat.sub_zero, Nat.min_eq_right hg,
        lastMod_eq_lastOr (fun k hk' => Nat.lt_of_lt_of_le (hlt k (List.mem_of_mem_take hk')) hg), hm] at h4
      exact Int.ofNat.inj h4
  · intro m hm
    obtain ⟨_, _, ⟨k', _, _, h3, h4⟩, _⟩ := grouped_order hl hk hpos hne h m hm
    exact ⟨k', h3, h4⟩

end Loaded

def demo3 : QState :=
  (append (append { kind := .fifo } ⟨3, false, 2, 2, [1], 0, 3⟩).1 ⟨2, true, 3, 3, [0], 0, 2⟩).1

theorem demo3_data (i : Nat) (e : Entry) (h : demo3.data[i]? = some e) :
    e = ⟨3, false, 2, 2, [1], 0, 3⟩ ∨ e = ⟨2, true, 3, 3, [0], 0, 2⟩ := by
  have hm := List.mem_of_getElem? h
  simpa [demo3, append] using hm

example : WF demo3 ∧ FifoInv demo3 := by
  have h : Loaded demo3 :=
    loaded_by_append .fifo true 0 false [] [] [⟨3, false, 2, 2, [1], 0, 3⟩, ⟨2, true, 3, 3, [0], 0, 2⟩]
      (by simp)
      (by intro e he
          simp only [List.mem_cons, List.not_mem_nil, or_false] at he
          rcases he with rfl | rfl <;> exact ⟨by decide, by decide, by decide, by decide⟩)
      (fun h => by cases h)
  exact ⟨h.wf, FifoInv_of_Loaded h rfl⟩

example : (popBuffer 40 demo3).toOption.map (fun r => (r.2.added.map (·.key), r.2.ordering, r.2.empty)) =
    some ([0, 0, 1, 1, 1], [], true) := by decide +kernel

/-! Three stimuli (array of 3 samples ×2, generator of 2 samples ×3 with delays 0/2, array
of 1 sample ×1) loaded by `append` into every policy. -/

def demoE1 : Entry := ⟨3, false, 2, 2, [1], 0, 3⟩
def demoE2 : Entry := ⟨2, true, 3, 3, [0, 2], 0, 2⟩
def demoE3 : Entry := ⟨1, false, 1, 1, [0], 0, 1⟩

theorem demo_good : ∀ e ∈ [demoE1, demoE2, demoE3], GoodEntry e := by
  intro e he
  simp only [List.mem_cons, List.not_mem_nil, or_false] at he
  rcases he with rfl | rfl | rfl <;> exact ⟨by decide, by decide, by decide, by decide⟩

def demoPerms : List (List Nat) :=
  (List.range 40).map (fun i => if i % 2 = 0 then [2, 0, 1] else [0, 2, 1])

def demoQ (kind : Kind) (keep : Bool) (gsize : Nat) (auto : Bool) : QState :=
  loadAll (newQueue kind keep gsize auto (List.range 40) demoPerms) [demoE1, demoE2, demoE3]

example (kind : Kind) (keep : Bool) (gsize : Nat) (auto : Bool) (hg : 1 ≤ gsize) :
    Loaded (demoQ kind keep gsize auto) :=
  loaded_by_append kind keep gsize auto _ _ _ (by simp) demo_good (fun _ _ => hg)

theorem demoPerms_perm : ∀ p ∈ demoPerms, p.Perm (List.range 3) := by
  intro p hp
  simp only [demoPerms, List.mem_map] at hp
  obtain ⟨i, _, rfl⟩ := hp
  split <;> decide

example (kind : Kind) (keep : Bool) (gsize : Nat) (auto : Bool) :
    OracleOK [7, 13, 20].sum (demoQ kind keep gsize auto) := by
  have hd : (demoQ kind keep gsize auto).draws = List.range 40 := (loadAll_oracle _ _).1
  have hpm : (demoQ kind keep gsize auto).perms = demoPerms := (loadAll_oracle _ _).2
  have hlen : (demoQ kind keep gsize auto).data.length = 3 := by rw [demoQ, loadAll_data]; rfl
  refine ⟨fun _ => by rw [hd]; decide, fun _ => ⟨by rw [hpm]; decide, ?_⟩⟩
  rw [hpm, hlen]
  exact demoPerms_perm

example : (demoQ .grouped false 0 true).data.length ≤ (demoQ .grouped false 0 true).gsize := by decide

example : (popAll [7, 13, 20] (demoQ .interleaved true 0 false)).toOption.map
    (fun r => (keyLog r.2, r.2.empty, r.2.complete)) = some ([0, 1, 2, 0, 1, 2, 0, 1], true, true) := by
  decide +kernel
example : (popAll [7, 13, 20] (demoQ .interleaved false 0 false)).toOption.map
    (fun r => (keyLog r.2, r.2.empty, r.2.complete)) = some ([0, 1, 2, 0, 1, 1], true, true) := by
  decide +kernel
example : (popAll [7, 13, 20] (demoQ .random false 0 false)).toOption.map
    (fun r => (keyLog r.2, r.2.empty, r.2.ordering)) = some ([0, 1, 2, 1, 0, 1], true, []) := by
  decide +kernel
example : (popAll [7, 13, 20] (demoQ .blockedRandom false 0 false)).toOption.map
    (fun r => (keyLog r.2, r.2.empty, r.2.complete)) = some ([1, 0, 2, 1, 2, 0, 1], true, true) := by
  decide +kernel
example : (popAll [7, 13, 20] (demoQ .grouped false 2 false)).toOption.map
    (fun r => (keyLog r.2, r.2.empty, r.2.ordering)) = some ([0, 1, 0, 1, 0, 1, 2], true, []) := by
  decide +kernel
example : (popAll [7, 13, 20] (demoQ .grouped false 0 true)).toOption.map
    (fun r => (keyLog r.2, r.2.empty, r.2.ordering)) = some ([0, 1, 2, 0, 1, 2, 0, 1], true, []) := by
  decide +kernel
example : (popAll [7, 13, 20] (demoQ .fifo false 0 false)).toOption.map
    (fun r => (keyLog r.2, r.2.empty, r.2.ordering)) = some ([0, 0, 1, 1, 1, 2], true, []) := by
  decide +kernel

end Psi.Queue

import PsiProofs.Helper.C10_Inv
import PsiProofs.Helper.C10_Disj
import PsiProofs.Helper.C10_Gen
/-!
C10 — generation is deterministic and isolated from other objects and global state.

(a) `fast_cache` (psiaudio/stim.py): the repaired wrapper (copy on return) returns the value of its
    arguments after every history of calls and caller writes; the wrapper as found does not.
(b) generators: `reset` after any use = fresh construction from the same parameters.
(c) operations on other objects, global-RNG use and caller writes never change an object.
-/
namespace Psi.Cache

section memo
variable {κ ω α : Type} [DecidableEq κ] [DecidableEq ω]

/-- After any history of calls (leaf or wrapper, hit or miss) and in-place writes by the caller into
results it was handed, a call returns the value of its arguments. -/
theorem result_depends_on_args_only (sg : Sig κ ω α) (ops : List (Op κ ω α)) (k : Key κ ω) :
    readHandle (call .copy sg (run .copy sg ops State.init) k)
      (run .copy sg ops State.init).handles.length = some (sg.value k) :=
  call_copy_read (run_copy_inv ops (Inv.init sg)) k

/-- The memo tables are never corrupted: every entry holds the value of its key. -/
theorem memo_never_corrupted (sg : Sig κ ω α) (ops : List (Op κ ω α)) (k : Key κ ω) (as : List Nat)
    (h : (k, as) ∈ (run .copy sg ops State.init).cache) :
    readAll (run .copy sg ops State.init).heap as = some (sg.value k) :=
  (run_copy_inv ops (Inv.init sg)).cached k as h

/-- The caller never holds storage of a memo table. -/
theorem caller_never_holds_memo_storage (sg : Sig κ ω α) (ops : List (Op κ ω α)) (k : Key κ ω)
    (as h : List Nat) (hc : (k, as) ∈ (run .copy sg ops State.init).cache)
    (hh : h ∈ (run .copy sg ops State.init).handles) : ∀ a ∈ h, a ∉ as :=
  (run_copy_inv ops (Inv.init sg)).priv k as hc h hh

/-- Two results handed out share no storage: `e1 = f(a); e2 = f(a)` are independent arrays
although both come from one memo entry. -/
theorem distinct_results_share_no_storage (sg : Sig κ ω α) (ops : List (Op κ ω α)) (h h' : Nat)
    (as bs : List Nat) (hne : h ≠ h') (ha : (run .copy sg ops State.init).handles[h]? = some as)
    (hb : (run .copy sg ops State.init).handles[h']? = some bs) : ∀ x ∈ as, x ∉ bs :=
  (run_copy_disj ops (Inv.init sg) Disj.init).apart hne ha hb

/-- A write through one result leaves every other result the caller holds as it was. -/
theorem write_through_one_result_leaves_others (sg : Sig κ ω α) (ops : List (Op κ ω α))
    (h c i : Nat) (x : α) (s' : State κ ω α)
    (hm : mutate (run .copy sg ops State.init) h c i x = .ok s') (h' : Nat) (hne : h' ≠ h) :
    readHandle s' h' = readHandle (run .copy sg ops State.init) h' :=
  mutate_other_handle (run_copy_disj ops (Inv.init sg) Disj.init) hm hne

end memo

def sgWitness : Sig Nat Nat Nat := { compute := fun _ => [[0, 0]], wraps := fun w => w }

/-- The code as found: call, write into the result, call again with the same arguments. -/
theorem cache_alias_counterexample :
    ¬ (∀ (ops : List (Op Nat Nat Nat)) (k : Key Nat Nat),
        readHandle (call .alias sgWitness (run .alias sgWitness ops State.init) k)
          (run .alias sgWitness ops State.init).handles.length = some (sgWitness.value k)) := by
  intro h
  have := h [.call (.leaf 0), .mutate 0 0 1 7] (.leaf 0)
  revert this
  decide

/-- The same through a wrapper: a write into the result of `cos2envelope(…)` changes what
`envelope(…)` returns (the wrapper's memo entry is the wrapped function's memo entry). -/
theorem cache_alias_wrapper_counterexample :
    readHandle (call .alias sgWitness
        (run .alias sgWitness [.call (.wrap 3), .mutate 0 0 0 9] State.init) (.leaf 3)) 1
      = some [[9, 0]] := by
  decide

-- non-vacuity, on the repaired wrapper
example : readHandle (call .copy sgWitness
      (run .copy sgWitness [.call (.wrap 3), .mutate 0 0 0 9, .call (.leaf 3), .scribble 5] State.init)
      (.wrap 3)) 2 = some [[0, 0]] := by decide

-- non-vacuity: the write is accepted (`.ok`) and the other handle exists
example : (mutate (run .copy sgWitness [.call (.leaf 1), .call (.leaf 1)] State.init) 0 0 1 7).toOption.map
      (fun s => (readHandle s 0, readHandle s 1)) = some (some [[0, 7]], some [[0, 0]]) := by decide

section generators
variable {P S O : Type}

/-- After `reset` a lawful generator produces the stream of a freshly constructed generator with the
same parameters (seed included), whatever was drawn before. -/
theorem reset_restores {g : Gen P S O} (hl : g.Lawful) (s : S) (hist ns : List Nat) :
    g.drawAll (g.reset (g.runAll s hist)) ns = g.drawAll (g.init (g.params s)) ns := by
  rw [Gen.reset_runAll hl]

/-- Same parameters, same stream, whatever happened to either object before its reset. -/
theorem same_params_same_stream {g : Gen P S O} (hl : g.Lawful) (p : P) (h1 h2 ns : List Nat) :
    g.drawAll (g.reset (g.runAll (g.init p) h1)) ns = g.drawAll (g.reset (g.runAll (g.init p) h2)) ns := by
  rw [Gen.reset_runAll hl, Gen.reset_runAll hl]

end generators

/-- Every carrier (`offset`, private `RandomState(seed)`, filter state, optional warm-up draw) is
lawful: `reset` re-assigns each mutable attribute from the parameters. -/
theorem carrier_lawful {P R F O : Type} (k : Kern P R F O) : k.gen.Lawful := k.lawful

/-- Every transform over a lawful input is lawful (`Transform.reset` resets its input). -/
theorem transform_lawful {P F O PI S : Type} (t : TKern P F O) {g : Gen PI S O} (hl : g.Lawful) :
    (t.gen g).Lawful := t.lawful hl

/-- `reset_restores` for an arbitrary carrier, on the code-shaped model. -/
theorem carrier_reset_restores {P R F O : Type} (k : Kern P R F O) (s : GState P R F) (hist ns : List Nat) :
    k.gen.drawAll (k.reset (k.gen.runAll s hist)) ns = k.gen.drawAll (k.init s.params) ns :=
  reset_restores k.lawful s hist ns

/-- … and for two transforms stacked on a carrier (e.g. Gate ∘ SAM ∘ noise). -/
theorem nested_reset_restores {P R F O P1 F1 P2 F2 : Type} (k : Kern P R F O) (t1 : TKern P1 F1 O)
    (t2 : TKern P2 F2 O) (s : TState P2 F2 (TState P1 F1 (GState P R F))) (hist ns : List Nat) :
    let g := t2.gen (t1.gen k.gen)
    g.drawAll (g.reset (g.runAll s hist)) ns = g.drawAll (g.init (g.params s)) ns :=
  reset_restores (t2.lawful (t1.lawful k.lawful)) s hist ns

/-- The state of a lawful generator is a function of its lineage `(spec, chunks since
construction/reset)`, which is what the driver prints. -/
theorem lineage_determines_state {P S O : Type} {g : Gen P S O} (hl : g.Lawful) (spec : Nat → P) :
    (∀ p, g.interp spec (freeGen.init p) = g.init (spec p)) ∧
    (∀ l n, g.interp spec (freeGen.next l n).1 = (g.next (g.interp spec l) n).1) ∧
    (∀ l, g.interp spec (freeGen.reset l) = g.reset (g.interp spec l)) := by
  refine ⟨fun p => rfl, ?_, ?_⟩
  · intro l n
    show g.runAll _ (l.chunks ++ [n]) = _
    rw [Gen.runAll_append]; rfl
  · intro l
    show g.init (spec l.spec) = g.reset (g.runAll (g.init (spec l.spec)) l.chunks)
    rw [Gen.reset_runAll hl, hl.params_init]

-- non-vacuity: a concrete lawful carrier (counter "rng", sum "filter", warm-up 2) and transform
def kExample : Kern Nat Nat Nat Nat :=
  { seedRng := fun p => p, initFilt := fun _ => 0, warm := fun _ => 2,
    chunk := fun p off r f n => ((List.range n).map (fun i => p + off + r + f + i), r + n, f + 1) }
def tExample : TKern Nat Nat Nat :=
  { initFilt := fun p => p, apply := fun p off f xs => (xs.map (· + p + off + f), f + xs.length) }
example : (tExample.gen kExample.gen).drawAll
      ((tExample.gen kExample.gen).reset ((tExample.gen kExample.gen).runAll ((tExample.gen kExample.gen).init (3, 5)) [4, 1]))
      [2, 3]
    = (tExample.gen kExample.gen).drawAll ((tExample.gen kExample.gen).init (3, 5)) [2, 3] := by decide
-- the stream is not constant: offset, rng, filter state and warm-up all show
example : (tExample.gen kExample.gen).drawAll ((tExample.gen kExample.gen).init (3, 5)) [2, 3]
    = [[19, 20], [28, 29, 30]] := by decide

/-- Whatever happens to other objects, to the global RNG and to returned chunks, an object that no
operation targets keeps its value (hence its future stream). -/
theorem other_objects_untouched (ops : List WOp) (w : World) (j : Nat) (hj : j < w.objs.length)
    (ht : ∀ op ∈ ops, op.target ≠ some j) : (wrun ops w).objs[j]? = w.objs[j]? :=
  wrun_frame ops w j hj ht

/-- Global NumPy RNG use and caller writes (into returned chunks, into its own parameter arrays)
are not inputs of any object's transition. -/
theorem global_state_and_caller_writes_ignored (w : World) (x n a : Nat) :
    (wstep w (.seed x)).1 = w ∧ (wstep w (.rand n)).1 = w ∧ (wstep w .scribble).1 = w ∧
      (wstep w (.wwrite a)).1.objs = w.objs := by
  refine ⟨rfl, rfl, rfl, ?_⟩
  simp only [wstep]; split <;> rfl

/-- `copy.deepcopy` yields an object with the same value under a new identity. -/
theorem deepcopy_takes_value (w : World) (o : Nat) (x : Obj) (h : w.objs[o]? = some x) :
    (wstep w (.copy o)).1.objs[w.objs.length]? = some x ∧ (wstep w (.copy o)).1.objs[o]? = some x := by
  have ho : o < w.objs.length := (List.getElem?_eq_some_iff.mp h).1
  simp only [wstep, h]
  exact ⟨by simp, by rw [List.getElem?_append_left ho]; exact h⟩

/-- `queue.append(source, …)` stores a deep copy: later use of the source leaves the queue as it was. -/
theorem queued_source_unaffected_by_later_use (w : World) (q g t d : Nat) (k : String) (p : Nat)
    (e : List Ev) (l : Lin) (hq : w.objs[q]? = some (.queue k p e)) (hg : w.objs[g]? = some (.gen l))
    (later : List WOp) (ht : ∀ op ∈ later, op.target ≠ some q) :
    (wrun later (wstep w (.append q g t d)).1).objs[q]? = some (.queue k p (e ++ [.app l t d])) := by
  have hlt : q < w.objs.length := (List.getElem?_eq_some_iff.mp hq).1
  have h1 : (wstep w (.append q g t d)).1.objs[q]? = some (.queue k p (e ++ [.app l t d])) := by
    simp only [wstep, hq, hg]
    simp [hlt]
  have hlt' : q < (wstep w (.append q g t d)).1.objs.length :=
    Nat.lt_of_lt_of_le hlt (wstep_length_le _ _)
  rw [wrun_frame later _ q hlt' ht, h1]

/-- `clone()` yields a queue with the same value, which then evolves by its own operations only. -/
theorem clone_evolves_independently (w : World) (q : Nat) (k : String) (p : Nat) (e : List Ev)
    (hq : w.objs[q]? = some (.queue k p e)) (later : List WOp)
    (ht : ∀ op ∈ later, op.target ≠ some w.objs.length) :
    (wrun later (wstep w (.clone q)).1).objs[w.objs.length]? = some (.queue k p e) := by
  have h1 : (wstep w (.clone q)).1.objs[w.objs.length]? = some (.queue k p e) := by
    simp only [wstep, hq]; simp
  have hlt : w.objs.length < (wstep w (.clone q)).1.objs.length := by
    simp only [wstep, hq]; simp
  rw [wrun_frame later _ _ hlt ht, h1]

/-- What `next` / `pop` return is named by the target's own value only. -/
theorem output_determined_by_own_lineage (w w' : World) (o o' n : Nat) (l : Lin)
    (h : w.objs[o]? = some (.gen l)) (h' : w'.objs[o']? = some (.gen l)) :
    (wstep w (.next o n)).2 = .chunk ⟨l.spec, l.chunks, n⟩ ∧
      (wstep w' (.next o' n)).2 = .chunk ⟨l.spec, l.chunks, n⟩ := by
  simp only [wstep, h, h', and_self]

-- non-vacuity: a generator is queued, then used, reset, copied; the queue is untouched
example : (wrun [.next 0 3, .seed 1, .reset 0, .copy 0, .scribble, .next 2 4, .rand 5, .wwrite 0]
      (wstep (wrun [.new 0, .next 0 5, .qnew "brand" 7] { World.init with nspecs := 1 }) (.append 1 0 2 3)).1).objs[1]?
    = some (.queue "brand" 7 [.app ⟨0, [5]⟩ 2 3]) := by decide

end Psi.Cache

import PsiModel.Reject
import PsiProofs.C11
import PsiProofs.Helper.C17_Rows
/-!
# C17 — artifact rejection forwards exactly the epochs under threshold, metadata aligned

Theorems about `PsiModel/Reject.lean` (`step` = one `send`, `run` = the coroutine over a sequence of sends).
-/
namespace Psi.Reject
open Psi.PData

/-- The property's wording of the verdict: strictly below the threshold. -/
def accepted (mode : Mode) (th : Int) (e : List Int) : Bool :=
  match criterion mode e with
  | some c => decide (c < th)
  | none => false

theorem accept_eq (mode : Mode) (th : Int) (e : List Int) (b : Bool) (h : accept mode th e = some b) :
    b = accepted mode th e := by
  unfold accept at h
  unfold accepted
  cases hc : criterion mode e <;> simp_all

/-- The mask handed to the status callback is the per-epoch verdict, in order. -/
theorem mask_eq_map (mode : Mode) (th : Int) : ∀ (epochs : List (List Int)) (mask : List Bool),
    epochs.mapM (accept mode th) = some mask → mask = epochs.map (accepted mode th)
  | [], mask, h => by simp at h; simp [h]
  | e :: es, mask, h => by
    simp only [List.mapM_cons] at h
    cases h1 : accept mode th e <;> cases h2 : List.mapM (accept mode th) es <;> simp [h1, h2] at h
    subst h
    rename_i b bs
    simp [accept_eq mode th e b h1, mask_eq_map mode th es bs h2]

theorem criterion_isSome (mode : Mode) (e : List Int) (h : e ≠ []) : ∃ c, criterion mode e = some c := by
  cases e with
  | nil => exact absurd rfl h
  | cons x xs => cases mode <;> simp [criterion, maxList, minList]

theorem mapM_accept (mode : Mode) (th : Int) : ∀ (epochs : List (List Int)), (∀ e ∈ epochs, e ≠ []) →
    epochs.mapM (accept mode th) = some (epochs.map (accepted mode th))
  | [], _ => rfl
  | e :: es, h => by
    obtain ⟨c, hc⟩ := criterion_isSome mode e (h e (by simp))
    simp [List.mapM_cons, accept, accepted, hc, mapM_accept mode th es fun x hx => h x (by simp [hx])]

theorem rows_length (nt : Nat) : ∀ (ne : Nat) (values : List Int), values.length = ne * nt →
    ∀ e ∈ rows nt ne values, e.length = nt
  | 0, _, _ => by simp [rows]
  | ne + 1, values, h => by
    intro e he
    simp only [rows, List.mem_cons] at he
    rcases he with rfl | he
    · simp; rw [h, Nat.succ_mul]; omega
    · exact rows_length nt ne (values.drop nt) (by simp [h, Nat.succ_mul]) e he

theorem rows_count (nt : Nat) : ∀ (ne : Nat) (values : List Int), (rows nt ne values).length = ne
  | 0, _ => rfl
  | ne + 1, values => by simp [rows, rows_count nt ne]

theorem keep_map_eq_filter {α} (p : α → Bool) : ∀ l : List α, keep l (l.map p) = l.filter p
  | [] => rfl
  | x :: xs => by
    cases hp : p x <;> simp [hp, keep_map_eq_filter p xs]

theorem keep_zip {α β} (l : List α) (l' : List β) (m : List Bool) :
    (keep l m).zip (keep l' m) = keep (l.zip l') m := by
  induction m generalizing l l' with
  | nil => simp
  | cons b bs ih => cases l <;> cases l' <;> cases b <;> simp [ih]

def plainBatch (ne nt : Nat) (values : List Int) : Batch :=
  { annotated := false, shape := [ne, 1, nt], values := values }

/-- Epochs of `nt ≥ 1` samples all have a criterion. -/
theorem mask_of_rows (mode : Mode) (th : Int) (ne nt : Nat) (values : List Int) (hnt : 0 < nt)
    (hv : values.length = ne * nt) :
    (rows nt ne values).mapM (accept mode th) = some ((rows nt ne values).map (accepted mode th)) := by
  apply mapM_accept
  intro e he h0
  have := rows_length nt ne values hv e he
  simp [h0] at this; omega

/-- Plain input: the status callback receives the per-epoch verdict and the target receives exactly the accepted
epochs, in their original order, or is not called when none is accepted. -/
theorem forwarded_eq_filter (mode : Mode) (th : Int) (ne nt : Nat) (values : List Int) (hnt : 0 < nt)
    (hv : values.length = ne * nt) :
    ∃ o, step mode th (plainBatch ne nt values) = .ok o ∧
      o.mask = (rows nt ne values).map (accepted mode th) ∧
      o.forwarded = (if ((rows nt ne values).filter (accepted mode th)).isEmpty then none
                     else some ((rows nt ne values).filter (accepted mode th))) := by
  have h0 : ¬ (nt = 0) := by omega
  simp [step, plainBatch, validate, mask_of_rows mode th ne nt values hnt hv, h0, keep_map_eq_filter]

/-- Order is preserved; every forwarded epoch is accepted and every accepted epoch is forwarded. -/
theorem forwarded_sublist (mode : Mode) (th : Int) (epochs : List (List Int)) :
    (epochs.filter (accepted mode th)).Sublist epochs ∧
    ∀ e, e ∈ epochs.filter (accepted mode th) ↔ e ∈ epochs ∧ accepted mode th e = true := by
  exact ⟨List.filter_sublist, fun e => by simp⟩

/-- An epoch whose criterion equals the threshold is rejected. -/
theorem strict (mode : Mode) (th : Int) (e : List Int) (h : criterion mode e = some th) :
    accepted mode th e = false ∧ accepted mode (th + 1) e = true := by
  refine ⟨by simp [accepted, h], ?_⟩
  simp [accepted, h]
  omega

/-- An all-rejected batch: the target is not called, and the callback still gets the mask. -/
theorem all_rejected_forwards_nothing (mode : Mode) (th : Int) (ne nt : Nat) (values : List Int) (hnt : 0 < nt)
    (hv : values.length = ne * nt) (hall : ∀ e ∈ rows nt ne values, accepted mode th e = false) :
    ∃ o, step mode th (plainBatch ne nt values) = .ok o ∧ o.forwarded = none ∧ o.mask = List.replicate ne false := by
  obtain ⟨o, ho, hmask, hf⟩ := forwarded_eq_filter mode th ne nt values hnt hv
  refine ⟨o, ho, ?_, ?_⟩
  · have : (rows nt ne values).filter (accepted mode th) = [] := by
      simp only [List.filter_eq_nil_iff]; intro e he; simp [hall e he]
    simp [hf, this]
  · rw [hmask, List.eq_replicate_iff]
    exact ⟨by simp [rows_count], List.forall_mem_map.2 hall⟩

/-- Time-varying threshold: every batch is judged with the threshold in force at its send.  As long as no send raises,
the coroutine is a `map` of the one-batch step. -/
theorem time_varying (mode : Mode) : ∀ (sends : List (Int × Batch)),
    (∀ p ∈ sends, ∃ o, step mode p.1 p.2 = .ok o) →
    run mode true sends = sends.map fun p => step mode p.1 p.2
  | [], _ => rfl
  | (th, b) :: rest, h => by
    obtain ⟨o, ho⟩ := h (th, b) (by simp)
    simp [run, ho, time_varying mode rest (fun p hp => h p (by simp [hp]))]

/-- Plain input that is not 3-D or has more than one channel, and annotated input that is not epoched or has more
than one channel, raises `ValueError`; afterwards the coroutine is finished (`StopIteration`). -/
theorem refuses (mode : Mode) (th : Int) (b : Batch)
    (hbad : (b.annotated = false ∧ (b.shape.length ≠ 3 ∨ b.shape.getD 1 0 ≠ 1)) ∨
            (b.annotated = true ∧ (b.shape.length < 3 ∨ (b.shape.length ≠ 1 ∧ shapeM2 b.shape ≠ 1)))) :
    step mode th b = .error .valueError ∧
    ∀ rest, run mode true ((th, b) :: rest) = .error .valueError :: rest.map fun _ => .error .stopIteration := by
  have hstep : step mode th b = .error .valueError := by
    rcases hbad with ⟨ha, h⟩ | ⟨ha, h⟩
    · rcases h with h | h
      · simp [step, validate, ha, h]
      · have h' : ¬ (b.shape[1]?.getD 0 = 1) := by simpa using h
        simp [step, validate, ha, h']
    · rcases h with h | h
      · have : ¬ (3 ≤ b.shape.length) := by omega
        simp [step, validate, ha, this]
      · simp [step, validate, ha, h.1, h.2]
  refine ⟨hstep, fun rest => ?_⟩
  simp only [run, hstep]
  congr 1
  induction rest with
  | nil => rfl
  | cons p ps ih => simp [run, ih]

theorem filterMap_zip_eq_keep {α} (l : List α) (m : List Bool) :
    (l.zip m).filterMap (fun (x, b) => if b then some x else none) = keep l m := by
  induction m generalizing l with
  | nil => simp
  | cons b bs ih => cases l <;> cases b <;> simp [ih]

def annotBatch (ne nt : Nat) (values : List Int) (s0 : Int) (fs : Rat) (c : Label) (ms : List Md) : Batch :=
  { annotated := true, shape := [ne, 1, nt], values := values, s0 := s0, fs := fs, channel := .many [c], metadata := .many ms }

theorem listTake_trueIdx {α} (l : List α) (m : List Bool) (h : m.length = l.length) :
    listTake l (trueIdx 0 m) = keep l m := by
  rw [mask_labels l m h]
  exact filterMap_zip_eq_keep l m

/-- `batch[mask]` selects the same rows for data and metadata, for every mask.  The batch is indexed as the
index-valued array `List.range (ne·1·nt)` that the model's `step` builds, and the data rows of the result are read back
through `values`.  Data placement comes from the NumPy layer through `getitem_data` (the annotation fix-ups never touch
data), metadata from C11's `epoch_select`. -/
theorem mask_selects_same_rows (ne nt : Nat) (values : List Int) (s0 : Int) (fs : Rat) (c : Label) (ms : List Md)
    (hv : values.length = ne * nt) (hm : ms.length = ne) (mask : List Bool) (hlen : mask.length = ne) :
    ∃ r, getitem ⟨[ne, 1, nt], List.range (prod [ne, 1, nt]), s0, fs, .many [c], .many ms⟩ (.one (.barr mask)) =
        .ok (.arr r) ∧
      rows nt (r.shape.getD 0 0) (r.data.map fun i => values.getD i 0) = keep (rows nt ne values) mask ∧
      r.metadata = .many (keep ms mask) ∧
      (keep ms mask).length = (keep (rows nt ne values) mask).length ∧
      r.shape = [(keep ms mask).length, 1, nt] ∧ r.s0 = s0 ∧ r.fs = fs ∧ r.channel = .many [c] := by
  have hsel : itemSel (.barr mask) ne = .ok (.fancy (trueIdx 0 mask)) := by
    simp [itemSel, maskPositions, hlen, Except.map]
  obtain ⟨r, hr, hmeta, hshape, _, hs0, hfs, hch⟩ :=
    epoch_select ne 1 nt (List.range (prod [ne, 1, nt])) s0 fs [c] ms hm (.barr mask) trivial _ hsel
  have hk := listTake_trueIdx ms mask (by omega)
  have hlk : (listTake ms (trueIdx 0 mask)).length = (trueIdx 0 mask).length :=
    listTake_length ms _ (by intro p hp; have := trueIdx_lt mask 0 p hp; omega)
  obtain ⟨sel, hnp, hdata, _⟩ := getitem_data hr
  have hoff := npGetitem_fancy_3d (c := 1) (n := nt) rfl hsel
  simp only [Index.items] at hnp
  rw [hnp] at hoff
  simp only [Except.map, Except.ok.injEq] at hoff
  rw [hoff, mask_offsets ne nt mask hlen] at hdata
  refine ⟨r, hr, ?_, ?_, ?_, ?_, hs0, hfs, hch⟩
  · rw [hshape, hdata, keep_rows nt ne values hv mask hlen]
    simp only [selShape, List.cons_append, List.nil_append, List.getD_cons_zero, List.map_flatMap, List.map_map,
      Function.comp_def]
    exact rows_flatMap nt _ (trueIdx 0 mask) (by intro x _; simp)
  · simp [hmeta, selMeta, hk]
  · rw [← hk, hlk, keep_rows nt ne values hv mask hlen, List.length_map]
  · simp [hshape, selShape, ← hk, hlk]

/-- One `send` of an annotated batch: what is forwarded is read off the result `r` of `batch[mask]`. -/
theorem step_annot (mode : Mode) (th : Int) (ne nt : Nat) (values : List Int) (s0 : Int) (fs : Rat) (c : Label)
    (ms : List Md) (hnt : 0 < nt) (hv : values.length = ne * nt) (r : PD)
    (hr : getitem ⟨[ne, 1, nt], List.range (prod [ne, 1, nt]), s0, fs, .many [c], .many ms⟩
      (.one (.barr ((rows nt ne values).map (accepted mode th)))) = .ok (.arr r)) :
    step mode th (annotBatch ne nt values s0 fs c ms) = .ok
      ⟨(rows nt ne values).map (accepted mode th),
        if r.shape.getD 0 0 = 0 then none else some (rows nt (r.shape.getD 0 0) (r.data.map fun i => values.getD i 0)),
        some r.metadata, r.shape, r.s0, r.fs, r.channel⟩ := by
  have h0 : ¬ (nt = 0) := by omega
  simp only [step, annotBatch, validate]
  simp only [shapeM2, List.length_cons, List.length_nil, List.reverse_cons, List.reverse_nil, List.nil_append,
    List.cons_append, List.getD_cons_succ, List.getD_cons_zero, Nat.reduceAdd, Nat.reduceEqDiff, ↓reduceIte,
    decide_true, Bool.and_self, Bool.not_true, Bool.false_eq_true, Nat.le_refl, mask_of_rows mode th ne nt values hnt hv,
    h0, hr, decide_false, Bool.and_false]

/-- Annotated input: the forwarded array carries exactly the metadata entries of the accepted epochs, in order, as
many as it has epochs; time base, rate and channel label are those of the batch. -/
theorem metadata_paired (mode : Mode) (th : Int) (ne nt : Nat) (values : List Int) (s0 : Int) (fs : Rat) (c : Label)
    (ms : List Md) (hnt : 0 < nt) (hv : values.length = ne * nt) (hm : ms.length = ne) :
    ∃ o, step mode th (annotBatch ne nt values s0 fs c ms) = .ok o ∧
      o.mask = (rows nt ne values).map (accepted mode th) ∧
      o.metadata = some (.many (keep ms o.mask)) ∧
      o.shape = [(keep ms o.mask).length, 1, nt] ∧
      (keep ms o.mask).zip (keep (rows nt ne values) o.mask) = keep (ms.zip (rows nt ne values)) o.mask ∧
      o.s0 = s0 ∧ o.fs = fs ∧ o.channel = .many [c] := by
  obtain ⟨r, hr, _, hmeta, _, hshape, hs0, hfs, hch⟩ :=
    mask_selects_same_rows ne nt values s0 fs c ms hv hm ((rows nt ne values).map (accepted mode th))
      (by rw [List.length_map, rows_count])
  exact ⟨_, step_annot mode th ne nt values s0 fs c ms hnt hv r hr, rfl, congrArg some hmeta, hshape, keep_zip _ _ _,
    hs0, hfs, hch⟩

/-- Annotated input: `forwarded_eq_filter`, and every forwarded epoch is positionally paired with its own metadata
entry (zipping forwarded metadata with forwarded epochs gives the accepted pairs of the batch). -/
theorem forwarded_rows_annotated (mode : Mode) (th : Int) (ne nt : Nat) (values : List Int) (s0 : Int) (fs : Rat)
    (c : Label) (ms : List Md) (hnt : 0 < nt) (hv : values.length = ne * nt) (hm : ms.length = ne) :
    ∃ o, step mode th (annotBatch ne nt values s0 fs c ms) = .ok o ∧
      o.mask = (rows nt ne values).map (accepted mode th) ∧
      o.forwarded = (if ((rows nt ne values).filter (accepted mode th)).isEmpty then none
                     else some ((rows nt ne values).filter (accepted mode th))) ∧
      o.metadata = some (.many (keep ms o.mask)) ∧
      (keep ms o.mask).zip ((rows nt ne values).filter (accepted mode th)) = keep (ms.zip (rows nt ne values)) o.mask ∧
      (keep ms o.mask).length = ((rows nt ne values).filter (accepted mode th)).length := by
  obtain ⟨r, hr, hrows, hmeta, hlk, hshape, _, _, _⟩ :=
    mask_selects_same_rows ne nt values s0 fs c ms hv hm ((rows nt ne values).map (accepted mode th))
      (by rw [List.length_map, rows_count])
  rw [keep_map_eq_filter] at hrows hlk
  refine ⟨_, step_annot mode th ne nt values s0 fs c ms hnt hv r hr, rfl, ?_, congrArg some hmeta, ?_, hlk⟩
  · rw [hshape] at hrows
    simp only [List.getD_cons_zero, hlk] at hrows
    simp only [hshape, List.getD_cons_zero, hlk, hrows, List.isEmpty_iff_length_eq_zero]
  · rw [← keep_map_eq_filter]; exact keep_zip _ _ _

example : accepted .absValue 4 [1, -3, 2] = true ∧ accepted .absValue 4 [1, -4, 2] = false ∧
    accepted .amplitude 4 [1, -3, 0] = false ∧ accepted .amplitude 4 [1, -2, 0] = true := by decide
example : criterion .absValue [1, -4, 2] = some 4 := by decide
example : (plainBatch 2 3 [1, -3, 2, 1, -4, 2]).values.length = 2 * 3 := rfl
example : ∀ e ∈ rows 2 2 [4, 0, -5, 1], accepted .absValue 4 e = false := by decide
example : (({ annotated := false, shape := [2, 2, 3], values := [] } : Batch).shape.getD 1 0) ≠ 1 := by decide

-- hypotheses of `forwarded_rows_annotated` / `mask_selects_same_rows` (mask `[true, false]`)
example : (0 < 3) ∧ ([1, -3, 2, 1, -4, 2] : List Int).length = 2 * 3 ∧ ([7, 8] : List Md).length = 2 ∧
    ([true, false] : List Bool).length = 2 := by decide

end Psi.Reject

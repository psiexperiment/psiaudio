import PsiProofs.Helper.C11_Select
/-! Slices of the channel and epoch axes and the bare 1-D time slice with the data spelled out (the result's samples
are those at the offsets `cart (P ++ [positions · stride] ++ Q)`), the offsets of a whole array, and `x[:]`. -/
namespace Psi.PData

section
variable (data : List Nat) (s0 : Int) (fs : Rat) (s : PySlice) (ps : List Nat)

theorem map_mul_range (n st : Nat) : (List.range n).map (· * st) = axis n st := rfl

theorem slice_t1_bare (n : Nat) (lab : Label) (m : Md) (hs : s.step = none) (h : slicePositions s n = .ok ps) :
    getitem ⟨[n], data, s0, fs, .one lab, .one m⟩ (.one (.slice s)) =
      .ok (.arr ⟨[ps.length], pick data (cart ([] ++ ps.map (· * 1) :: [])), timeS0 s0 s n, fs, .one lab, .one m⟩) := by
  rw [slice_t1 data s0 fs s 1 ps n lab m (by omega) (by simp [hs]) h _ (by simp), timeFs_unit (.inl hs) fs]

theorem slice_c2 (c n : Nat) (l : List Label) (m : Md) (hl : l.length = c) (h : slicePositions s c = .ok ps) :
    getitem ⟨[c, n], data, s0, fs, .many l, .one m⟩ (.one (.slice s)) =
      .ok (.arr ⟨[ps.length, n], pick data (cart ([] ++ ps.map (· * n) :: [List.range n])), s0, fs,
        .many (listTake l ps), .one m⟩) := by
  simpa [NPSel.shape, offsets_base0, axis, selChan, selMeta] using
    getitem_chan_2d data s0 fs (.slice s) rfl c n l m hl (itemSel_slice h) (npOfSels_basic2 ..)

theorem slice_c3 (e c n : Nat) (l : List Label) (ms : List Md) (hl : l.length = c) (h : slicePositions s c = .ok ps) :
    getitem ⟨[e, c, n], data, s0, fs, .many l, .many ms⟩ (.tuple [.slice .all, .slice s]) =
      .ok (.arr ⟨[e, ps.length, n], pick data (cart ([axis e (c * n)] ++ ps.map (· * n) :: [List.range n])), s0, fs,
        .many (listTake l ps), .many ms⟩) := by
  simpa [NPSel.shape, offsets_base0, axis, selChan, selMeta] using
    getitem_chan_3d e c n data s0 fs l ms hl (.slice s) trivial (itemSel_slice h) (npOfSels_basic3 ..)

theorem slice_e3 (e c n : Nat) (l : List Label) (ms : List Md) (hm : ms.length = e) (h : slicePositions s e = .ok ps) :
    getitem ⟨[e, c, n], data, s0, fs, .many l, .many ms⟩ (.one (.slice s)) =
      .ok (.arr ⟨[ps.length, c, n], pick data (cart ([] ++ ps.map (· * (c * n)) :: [axis c n, List.range n])), s0, fs,
        .many l, .many (listTake ms ps)⟩) := by
  simpa [NPSel.shape, offsets_base0, axis, selChan, selMeta] using
    getitem_epoch_3d data s0 fs (.slice s) rfl e c n l ms hm (itemSel_slice h) (npOfSels_basic3 ..)
end

theorem axis_length (n st : Nat) : (axis n st).length = n := by simp [axis]

theorem cart_std2 (c n : Nat) : cart [axis c n, List.range n] = List.range (c * n) := by
  rw [cart_cons, cart_single]
  simp only [axis, List.flatMap_map]
  exact range_flatMap_block c n

theorem cart_std3 (e c n : Nat) : cart [axis e (c * n), axis c n, List.range n] = List.range (e * (c * n)) := by
  rw [cart_cons, cart_std2]
  simp only [axis, List.flatMap_map]
  exact range_flatMap_block e (c * n)

theorem pick_range (data : List Nat) (N : Nat) (h : data.length = N) : pick data (List.range N) = data := by
  subst h; exact map_getD_range data 0

theorem getArr_all {a : PD} (hwf : WF a) : getArr Fixes.all a (.one (.slice .all)) = .ok a := by
  cases hwf with
  | d1 n data s0 fs lab m hd =>
    have h := slice_t1_bare data s0 fs .all _ n lab m rfl (slicePositions_all n)
    simp only [getitem] at h
    simp only [getArr, h, List.nil_append, cart_single, Nat.mul_one, List.map_id', pick_range data _ hd, List.length_range]
    simp [timeS0, startNat, PySlice.all]
  | d2 c n data s0 fs l m hd hl =>
    have h := slice_c2 data s0 fs .all _ c n l m hl (slicePositions_all c)
    simp only [getitem] at h
    simp only [getArr, h, List.nil_append, map_mul_range, cart_std2, pick_range data _ hd, List.length_range]
    rw [← hl, listTake_range]
  | d3 e c n data s0 fs l ms hd hl hm =>
    have h := slice_e3 data s0 fs .all _ e c n l ms hm (slicePositions_all e)
    simp only [getitem] at h
    simp only [getArr, h, List.nil_append, map_mul_range, cart_std3, pick_range data _ hd, List.length_range]
    rw [← hm, listTake_range]

end Psi.PData

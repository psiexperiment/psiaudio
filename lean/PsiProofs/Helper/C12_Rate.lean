import PsiProofs.Helper.C12_Run
/-! `event_rate`: the whole-stream definition `rateSpec`, the inner loop, and the run over an arbitrary chunking of a
well-formed event stream. -/
namespace Psi.Stages
variable {σ I O ρ χ μ : Type}

def inWin (size lo x : Nat) : Bool := lo ≤ x && x < lo + size

/-- number of windows `[a + j·step, a + j·step + size)` that the loop condition
`events.range_samples > block_size` completes when the known span is `[a, b)`:
`⌈(b - a - size) / step⌉`, see `nWindows_spec` -/
def nWindows (size step a b : Nat) : Nat := (b - (a + size) + (step - 1)) / step

/-- the event counts of the completed windows, from every event `all` of the stream (any order) and its span `[a, b)` -/
def rateSpec (size step a b : Nat) (all : List Nat) : List Nat :=
  (List.range (nWindows size step a b)).map fun j => all.countP (inWin size (a + j * step))

theorem nWindows_spec {size step a b : Nat} (hs : 0 < step) (j : Nat) :
    j < nWindows size step a b ↔ a + j * step + size < b := by
  unfold nWindows
  rw [Nat.lt_iff_add_one_le, Nat.le_div_iff_mul_le hs, Nat.add_mul, Nat.one_mul]
  omega

theorem nWindows_unique {size step a b n : Nat} (hs : 0 < step)
    (h : ∀ j, j < n ↔ a + j * step + size < b) : n = nWindows size step a b := by
  have h1 := (not_congr (h n)).mp (Nat.lt_irrefl n)
  have h2 := (not_congr (nWindows_spec (size := size) (a := a) (b := b) hs (nWindows size step a b))).mp
    (Nat.lt_irrefl _)
  have h3 := (not_congr (nWindows_spec (size := size) (a := a) (b := b) hs n)).mpr h1
  have h4 := (not_congr (h (nWindows size step a b))).mpr h2
  omega

theorem nWindows_zero {size step a b : Nat} (hs : 0 < step) (h : ¬ a + size < b) :
    nWindows size step a b = 0 :=
  Nat.eq_zero_of_not_pos fun hp => h (by simpa using (nWindows_spec hs 0).mp hp)

theorem nWindows_succ {size step a b : Nat} (hs : 0 < step) (h : a + size < b) :
    nWindows size step a b = nWindows size step (a + step) b + 1 := by
  refine (nWindows_unique hs ?_).symm
  intro j
  cases j with
  | zero => simp; omega
  | succ j =>
    rw [Nat.add_lt_add_iff_right, nWindows_spec hs, Nat.add_mul, Nat.one_mul]
    omega

theorem nWindows_split {size step a b c : Nat} (hs : 0 < step) (hbc : b ≤ c) :
    nWindows size step a c
      = nWindows size step a b + nWindows size step (a + nWindows size step a b * step) c := by
  refine (nWindows_unique hs ?_).symm
  intro j
  by_cases hj : j < nWindows size step a b
  · have := (nWindows_spec (size := size) (a := a) (b := b) hs j).mp hj
    constructor
    · intro _; omega
    · intro _; omega
  · have hj' : nWindows size step a b ≤ j := Nat.le_of_not_lt hj
    obtain ⟨k, rfl⟩ := Nat.exists_eq_add_of_le hj'
    rw [Nat.add_lt_add_iff_left, nWindows_spec hs, Nat.add_mul]
    omega

theorem nWindows_le {size step a b : Nat} (hs : 0 < step) : nWindows size step a b ≤ b - a := by
  apply Nat.le_of_not_lt
  intro h
  have h1 := (nWindows_spec (size := size) (a := a) (b := b) hs (b - a)).mp h
  have : b - a ≤ (b - a) * step := Nat.le_mul_of_pos_right _ hs
  omega

theorem rateSpec_split {size step a b c : Nat} (hs : 0 < step) (hbc : b ≤ c) (all : List Nat) :
    rateSpec size step a c all
      = (List.range (nWindows size step a b)).map (fun j => all.countP (inWin size (a + j * step)))
        ++ rateSpec size step (a + nWindows size step a b * step) c all := by
  unfold rateSpec
  rw [nWindows_split hs hbc, List.range_add, List.map_append, List.map_map]
  congr 1
  apply List.map_congr_left
  intro j _
  simp only [Function.comp, Nat.add_mul, Nat.add_assoc]

/-- the loop drops the events before `a'` when it advances to `a'` -/
theorem countP_inWin_filter {size a' b lo : Nat} {evs : List Nat} (hlt : ∀ x ∈ evs, x < b) (hlo : a' ≤ lo) :
    (evs.filter (fun s => a' ≤ s && s < b)).countP (inWin size lo) = evs.countP (inWin size lo) := by
  rw [List.countP_filter]
  apply List.countP_congr
  intro x hx
  have := hlt x hx
  simp only [inWin, Bool.and_eq_true, decide_eq_true_eq]
  omega

/-- The loop completes `nWindows` windows; the events it keeps are all that can fall into a later window. -/
theorem rateLoop_spec (size step : Nat) (hs : 0 < step) (fs : ρ) :
    ∀ (fuel : Nat) (evs : List Nat) (a b : Nat), nWindows size step a b ≤ fuel → (∀ x ∈ evs, x < b) →
      ∃ evs', rateLoop size step fuel ⟨evs, a, b, fs⟩
          = ((List.range (nWindows size step a b)).map (fun j => evs.countP (inWin size (a + j * step))),
             ⟨evs', a + nWindows size step a b * step, b, fs⟩)
        ∧ (∀ x ∈ evs', x < b)
        ∧ (∀ lo, a + nWindows size step a b * step ≤ lo →
            evs'.countP (inWin size lo) = evs.countP (inWin size lo)) := by
  intro fuel
  induction fuel with
  | zero =>
    intro evs a b hf hlt
    have h0 : nWindows size step a b = 0 := Nat.le_zero.mp hf
    exact ⟨evs, by simp [rateLoop, h0], hlt, fun _ _ => rfl⟩
  | succ fuel ih =>
    intro evs a b hf hlt
    by_cases hc : a + size < b
    · have hn := nWindows_succ hs hc
      obtain ⟨evs', hrun, hlt', hkeep⟩ := ih (evs.filter (fun s => a + step ≤ s && s < b)) (a + step) b
        (by omega) (fun x hx => hlt x (List.mem_filter.mp hx).1)
      refine ⟨evs', ?_, hlt', ?_⟩
      · simp only [rateLoop, hc, if_true, Ev.range, hrun, hn, List.range_succ_eq_map, List.map_cons, List.map_map]
        congr 1
        · congr 1
          · rw [List.countP_eq_length_filter, Nat.zero_mul, Nat.add_zero]
            rfl
          · apply List.map_congr_left
            intro j _
            simp only [Function.comp]
            rw [countP_inWin_filter hlt (Nat.le_add_right _ _), Nat.succ_mul, Nat.add_assoc, Nat.add_comm step]
        · congr 1
          rw [Nat.add_mul, Nat.one_mul]; omega
      · intro lo hlo
        rw [hn, Nat.add_mul, Nat.one_mul] at hlo
        rw [hkeep lo (by omega), countP_inWin_filter hlt (by omega)]
    · have h0 := nWindows_zero (size := size) (a := a) (b := b) hs hc
      exact ⟨evs, by simp [rateLoop, hc, h0], hlt, fun _ _ => rfl⟩

/-- A chunking of an event stream: adjacent `Events` objects starting at `t` (empty spans allowed), one rate, every
event inside the span of the object that carries it, in any listing order. -/
def WFEvents (fs : ρ) : Nat → List (Ev ρ) → Prop
  | _, [] => True
  | t, e :: es => e.start = t ∧ e.start ≤ e.stop ∧ e.fs = fs ∧ (∀ x ∈ e.events, e.start ≤ x ∧ x < e.stop)
      ∧ WFEvents fs e.stop es

def endOf : Nat → List (Ev ρ) → Nat
  | t, [] => t
  | _, e :: es => endOf e.stop es

def allEvents (es : List (Ev ρ)) : List Nat := (es.map (·.events)).flatten

theorem WFEvents.le_endOf {fs : ρ} : ∀ {es : List (Ev ρ)} {t : Nat}, WFEvents fs t es → t ≤ endOf t es := by
  intro es
  induction es with
  | nil => intro t _; exact Nat.le_refl _
  | cons e es ih =>
    intro t h
    obtain ⟨h1, h2, _, _, h5⟩ := h
    have := ih h5
    simp only [endOf]; omega

theorem allEvents_cons (e : Ev ρ) (es : List (Ev ρ)) : allEvents (e :: es) = e.events ++ allEvents es := rfl

theorem WFEvents.ge_start {fs : ρ} : ∀ {es : List (Ev ρ)} {t : Nat}, WFEvents fs t es →
    ∀ x ∈ allEvents es, t ≤ x := by
  intro es
  induction es with
  | nil => intro t _ x hx; exact (List.not_mem_nil hx).elim
  | cons e es ih =>
    intro t h x hx
    obtain ⟨h1, h2, _, h4, h5⟩ := h
    rw [allEvents_cons] at hx
    rcases List.mem_append.mp hx with hx | hx
    · have := (h4 x hx).1; omega
    · have := ih h5 x hx; omega

theorem WFEvents.lt_endOf {fs : ρ} : ∀ {es : List (Ev ρ)} {t : Nat}, WFEvents fs t es →
    ∀ x ∈ allEvents es, x < endOf t es := by
  intro es
  induction es with
  | nil => intro t _ x hx; exact (List.not_mem_nil hx).elim
  | cons e es ih =>
    intro t h x hx
    obtain ⟨h1, h2, _, h4, h5⟩ := h
    rw [allEvents_cons] at hx
    rcases List.mem_append.mp hx with hx | hx
    · have := (h4 x hx).2
      have := WFEvents.le_endOf h5
      simp only [endOf]; omega
    · exact ih h5 x hx

variable [DecidableEq ρ] (divFs : ρ → Nat → ρ) (chDef : χ) (mdEmpty : μ) (size step : Nat)

theorem eventRateStep_some (hs : 0 < step) (fs ofs : ρ) (evs : List Nat) (a b t : Nat) (e : Ev ρ) (hb : ∀ x ∈ evs, x < b)
    (he0 : e.start = b) (he1 : e.start ≤ e.stop) (hefs : e.fs = fs) (he2 : ∀ x ∈ e.events, x < e.stop) :
    ∃ evs', eventRateStep divFs chDef mdEmpty size step (some ⟨⟨evs, a, b, fs⟩, t, ofs⟩) e
        = .ok (if nWindows size step a e.stop ≠ 0 then
                [{ data := (List.range (nWindows size step a e.stop)).map
                      (fun j => (evs ++ e.events).countP (inWin size (a + j * step)))
                   s0 := (t : Int), ann := ⟨ofs, chDef, mdEmpty⟩ }] else [],
               some ⟨⟨evs', a + nWindows size step a e.stop * step, e.stop, fs⟩,
                 t + 2 * nWindows size step a e.stop, ofs⟩)
      ∧ (∀ x ∈ evs', x < e.stop)
      ∧ (∀ lo, a + nWindows size step a e.stop * step ≤ lo →
          evs'.countP (inWin size lo) = (evs ++ e.events).countP (inWin size lo)) := by
  subst he0 hefs
  have hall : ∀ x ∈ evs ++ e.events, x < e.stop := by
    intro x hx
    rcases List.mem_append.mp hx with hx | hx
    · exact Nat.lt_of_lt_of_le (hb x hx) he1
    · exact he2 x hx
  obtain ⟨evs', hrun, hlt, hkeep⟩ := rateLoop_spec size step hs e.fs (e.stop - a) (evs ++ e.events) a e.stop
    (nWindows_le hs) hall
  refine ⟨evs', ?_, hlt, hkeep⟩
  unfold eventRateStep
  rw [if_neg (Nat.ne_of_gt hs)]
  dsimp only
  rw [if_neg (fun h => h rfl), if_neg (fun h => h rfl), hrun]
  dsimp only
  by_cases hz : nWindows size step a e.stop = 0
  · rw [hz]
    rfl
  · rw [if_neg (by rw [List.isEmpty_iff, List.map_eq_nil_iff, List.range_eq_nil]; exact hz), if_pos hz,
      List.length_map, List.length_range]

/-- From any running state: what is emitted is `rateSpec` over the buffered events and everything that follows. -/
theorem eventRate_run (hs : 0 < step) (fs ofs : ρ) : ∀ (es : List (Ev ρ)) (evs : List Nat) (a b t : Nat), WFEvents fs b es →
      (∀ x ∈ evs, x < b) → (es = [] → ¬ a + size < b) →
      ∃ bs, outputs (runStage (eventRateStep divFs chDef mdEmpty size step) (some ⟨⟨evs, a, b, fs⟩, t, ofs⟩) es)
            = .ok bs
        ∧ Emits bs (rateSpec size step a (endOf b es) (evs ++ allEvents es)) 2 t ⟨ofs, chDef, mdEmpty⟩ := by
  intro es
  induction es with
  | nil =>
    intro evs a b t _ _ hdone
    refine ⟨[], rfl, ?_⟩
    have : rateSpec size step a (endOf b ([] : List (Ev ρ))) (evs ++ allEvents ([] : List (Ev ρ))) = [] := by
      simp [rateSpec, endOf, nWindows_zero hs (hdone rfl)]
    rw [this]; exact Emits.nil _ _ _
  | cons e es ih =>
    intro evs a b t hwf hb _
    obtain ⟨he0, he1, hefs, he2, hwf'⟩ := hwf
    obtain ⟨evs', hstep, hlt, hkeep⟩ := eventRateStep_some divFs chDef mdEmpty size step hs fs ofs evs a b t e hb
      he0 he1 hefs (fun x hx => (he2 x hx).2)
    have hdone' : es = [] → ¬ a + nWindows size step a e.stop * step + size < e.stop := by
      intro _ h
      have := (nWindows_spec (size := size) (a := a) (b := e.stop) hs (nWindows size step a e.stop)).mpr h
      omega
    have ih' := ih evs' (a + nWindows size step a e.stop * step) e.stop (t + 2 * nWindows size step a e.stop)
      hwf' hlt hdone'
    -- the whole-stream value splits into the windows completed now and the later ones
    have hle : e.stop ≤ endOf e.stop es := WFEvents.le_endOf hwf'
    have hspec : rateSpec size step a (endOf b (e :: es)) (evs ++ allEvents (e :: es))
        = (List.range (nWindows size step a e.stop)).map
            (fun j => (evs ++ e.events).countP (inWin size (a + j * step)))
          ++ rateSpec size step (a + nWindows size step a e.stop * step) (endOf e.stop es)
              (evs' ++ allEvents es) := by
      have hall : evs ++ allEvents (e :: es) = (evs ++ e.events) ++ allEvents es := by
        rw [allEvents_cons, List.append_assoc]
      simp only [endOf]
      rw [rateSpec_split hs hle, hall]
      congr 1
      · apply List.map_congr_left
        intro j hj
        have hj' := (nWindows_spec (size := size) (a := a) (b := e.stop) hs j).mp (List.mem_range.mp hj)
        -- a window completed now ends before `e.stop`, where the later events begin
        rw [List.countP_append, (List.countP_eq_zero (l := allEvents es)).mpr, Nat.add_zero]
        intro x hx
        have := WFEvents.ge_start hwf' x hx
        simp [inWin]; omega
      · unfold rateSpec
        apply List.map_congr_left
        intro j _
        have hlo : a + nWindows size step a e.stop * step
            ≤ a + nWindows size step a e.stop * step + j * step := Nat.le_add_right _ _
        simp only [List.countP_append]
        rw [hkeep _ hlo, List.countP_append]
    rw [hspec]
    obtain ⟨bs, hr, he⟩ := ih'
    refine ⟨_, by rw [outputs_cons hstep, hr]; rfl, Emits.append (Emits.ite _ 2 _ fun hz => ?_) ?_⟩
    · rw [Decidable.not_not.mp hz]; rfl
    · simpa only [List.length_map, List.length_range, Int.natCast_add, Int.natCast_mul, Int.cast_ofNat_Int] using he

/-- one `send` in the running state, whatever the `Events` object (no `WFEvents`) -/
theorem eventRateStep_ok {st : RateSt ρ} {e : Ev ρ}
    {o : List (PD Nat ρ χ μ)} {s' : Option (RateSt ρ)}
    (h : eventRateStep divFs chDef mdEmpty size step (some st) e = .ok (o, s')) :
    ∃ st', s' = some st' ∧ st'.fs = st.fs ∧ (st'.s0x2 : Int) = st.s0x2 + 2 * ((outData o).length : Nat)
      ∧ Emits o (outData o) 2 st.s0x2 ⟨st.fs, chDef, mdEmpty⟩ := by
  unfold eventRateStep at h
  by_cases h0 : step = 0
  · rw [if_pos h0] at h; cases h
  rw [if_neg h0] at h
  dsimp only at h
  by_cases h1 : e.start ≠ st.ev.stop
  · rw [if_pos h1] at h; cases h
  rw [if_neg h1] at h
  by_cases h2 : e.fs ≠ st.ev.fs
  · rw [if_pos h2] at h; cases h
  rw [if_neg h2] at h
  generalize rateLoop size step _ _ = r at h
  by_cases h3 : r.1.isEmpty = true
  · rw [if_pos h3] at h; cases h
    exact ⟨_, rfl, rfl, (Int.add_zero _).symm, Emits.nil _ _ _⟩
  · rw [if_neg h3] at h; cases h
    refine ⟨_, rfl, rfl, ?_, ?_⟩ <;> rw [outData_single]
    · rw [Int.natCast_add, Int.natCast_mul]; rfl
    · exact Emits.single _ 2

theorem eventRate_contig :
    ∀ (es : List (Ev ρ)) (st : RateSt ρ) (bs : List (PD Nat ρ χ μ)),
    outputs (runStage (eventRateStep divFs chDef mdEmpty size step) (some st) es) = .ok bs →
      Emits bs (outData bs) 2 st.s0x2 ⟨st.fs, chDef, mdEmpty⟩ := by
  intro es
  induction es with
  | nil => intro st bs h; cases h; exact Emits.nil _ _ _
  | cons e es ih =>
    intro st bs h
    obtain ⟨o, s', bs', hstep, hrest, rfl⟩ := outputs_cons_ok h
    obtain ⟨st', rfl, hfs, hpos, ho⟩ := eventRateStep_ok divFs chDef mdEmpty size step hstep
    have := ih st' bs' hrest
    rw [hfs, hpos] at this
    rw [outData_append]
    exact ho.append this

end Psi.Stages

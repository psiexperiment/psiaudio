import PsiProofs.Helper.C12_Run
/-! The accumulating stages `blocked` and `rms`: both buffer the chunks as a list of arrays, `concat` them once enough
samples are there, emit from the merged array and keep what is left of it as the new one-piece buffer. -/
namespace Psi.Stages
variable {α β ρ χ μ S τ σ I : Type}

/-- the list of buffered arrays concatenates to the samples `b`, the first of which is sample `t` of the stream -/
def BufIs (pieces : List (PD α ρ χ μ)) (b : List α) (t : Int) (ann : Ann ρ χ μ) : Prop :=
  (pieces = [] ∧ b = []) ∨ catAll pieces = .ok { data := b, s0 := t, ann := ann }

theorem catAll_snoc (a : PD α ρ χ μ) (rest : List (PD α ρ χ μ)) (d : PD α ρ χ μ) :
    catAll ((a :: rest) ++ [d]) = (match catAll (a :: rest) with | .ok m => cat m d | .error e => .error e) := by
  simp only [catAll, List.cons_append, List.foldlM_append]
  cases h : List.foldlM cat a rest with
  | error e => rfl
  | ok m =>
    simp only [bind, Except.bind, List.foldlM_cons, List.foldlM_nil]
    cases cat m d <;> rfl

theorem BufIs.snoc {pieces : List (PD α ρ χ μ)} {b : List α} {s t : Int} {ann : Ann ρ χ μ}
    (h : BufIs pieces b t ann) (hs : s = t + b.length) (c : List α) :
    catAll (pieces ++ [{ data := c, s0 := s, ann := ann }]) = .ok { data := b ++ c, s0 := t, ann := ann } := by
  rcases h with ⟨rfl, rfl⟩ | h
  · rw [List.length_nil, Int.natCast_zero, Int.add_zero] at hs
    subst hs; rfl
  · cases pieces with
    | nil => cases h
    | cons a rest => rw [catAll_snoc, h]; simp only [cat, PD.len, hs, ↓reduceIte]

theorem BufIs.keep {pieces : List (PD α ρ χ μ)} {b : List α} {s t : Int} {ann : Ann ρ χ μ}
    (h : BufIs pieces b t ann) (hs : s = t + b.length) (c : List α) :
    BufIs (pieces ++ [{ data := c, s0 := s, ann := ann }]) (b ++ c) t ann :=
  Or.inr (h.snoc hs c)

theorem BufIs.rest (m : PD α ρ χ μ) (k : Nat) : BufIs [m.dropN k] (m.data.drop k) (m.s0 + k) m.ann :=
  Or.inr rfl

theorem PD.dropN_dropN (m : PD α ρ χ μ) (i j : Nat) : (m.dropN i).dropN j = m.dropN (i + j) := by
  simp only [PD.dropN, List.drop_drop]
  congr 1
  rw [Int.natCast_add, Int.add_assoc]

theorem blockLoop_spec (b : Nat) (hb : 0 < b) : ∀ (fuel : Nat) (m : PD α ρ χ μ), m.len ≤ fuel →
    (blockLoop b fuel m).2 = m.dropN (m.len / b * b)
    ∧ Emits (blockLoop b fuel m).1 (m.data.take (m.len / b * b)) 1 m.s0 m.ann := by
  intro fuel
  induction fuel with
  | zero =>
    intro m hm
    have h0 : m.len = 0 := Nat.le_zero.mp hm
    simp only [blockLoop, h0, Nat.zero_div, Nat.zero_mul, List.take_zero]
    exact ⟨by simp [PD.dropN], Emits.nil _ _ _⟩
  | succ fuel ih =>
    intro m hm
    by_cases hle : b ≤ m.len
    · simp only [blockLoop, if_pos hle]
      have hlen : (m.dropN b).len = m.len - b := List.length_drop
      obtain ⟨h2, he⟩ := ih (m.dropN b) (by rw [hlen]; omega)
      rw [hlen] at h2 he
      have hk := div_mul_step b m.len hb hle
      refine ⟨by rw [h2, PD.dropN_dropN, hk], Emits.cons (m.takeN b) he rfl rfl ?_ ?_⟩
      · simp only [PD.dropN, PD.takeN, PD.len, List.length_take, Int.one_mul]
        rw [Nat.min_eq_left (show b ≤ m.data.length from hle)]
      · rw [hk, List.take_add]; rfl
    · have hlt : m.len < b := Nat.lt_of_not_le hle
      simp only [blockLoop, if_neg hle, Nat.div_eq_of_lt hlt, Nat.zero_mul, List.take_zero]
      exact ⟨by simp [PD.dropN], Emits.nil _ _ _⟩

theorem blockLoop_len (b : Nat) (fuel : Nat) (m : PD α ρ χ μ) : ∀ blk ∈ (blockLoop b fuel m).1, blk.len = b := by
  induction fuel generalizing m with
  | zero => exact fun _ h => (List.not_mem_nil h).elim
  | succ fuel ih =>
    intro blk h
    by_cases hle : b ≤ m.len
    · simp only [blockLoop, if_pos hle] at h
      rcases List.mem_cons.mp h with rfl | h
      · exact (List.length_take).trans (Nat.min_eq_left hle)
      · exact ih _ blk h
    · simp only [blockLoop, if_neg hle] at h
      exact (List.not_mem_nil h).elim

theorem blockedStep_stream (b : Nat) (hb : 0 < b) {st : BlockedSt α ρ χ μ} {buf : List α} {s t : Int}
    {ann : Ann ρ χ μ} (hbuf : BufIs st.data buf t ann) (hs : s = t + buf.length) (c : List α) :
    blockedStep b st { data := c, s0 := s, ann := ann }
      = if b ≤ st.n + c.length then
          .ok ((blockLoop b (buf ++ c).length { data := buf ++ c, s0 := t, ann := ann }).1,
               { data := [(blockLoop b (buf ++ c).length { data := buf ++ c, s0 := t, ann := ann }).2],
                 n := (blockLoop b (buf ++ c).length { data := buf ++ c, s0 := t, ann := ann }).2.len })
        else .ok ([], { data := st.data ++ [{ data := c, s0 := s, ann := ann }], n := st.n + c.length }) := by
  simp only [blockedStep, if_neg (Nat.ne_of_gt hb), hbuf.snoc hs c, PD.len]

theorem blockedStep_ok {b : Nat} {st st' : BlockedSt α ρ χ μ} {d : PD α ρ χ μ} {o : List (PD α ρ χ μ)}
    (h : blockedStep b st d = .ok (o, st')) :
    (¬ b ≤ st.n + d.len ∧ o = [] ∧ st'.n = st.n + d.len)
      ∨ ∃ m, o = (blockLoop b m.len m).1 ∧ st'.n = (blockLoop b m.len m).2.len := by
  unfold blockedStep at h
  by_cases h0 : b = 0
  · rw [if_pos h0] at h; cases h
  rw [if_neg h0] at h
  dsimp only at h
  by_cases hge : b ≤ st.n + d.len
  · rw [if_pos hge] at h
    cases hm : catAll (st.data ++ [d]) with
    | error e => rw [hm] at h; cases h
    | ok merged => rw [hm] at h; cases h; exact Or.inr ⟨merged, rfl, rfl⟩
  · rw [if_neg hge] at h
    cases h
    exact Or.inl ⟨hge, rfl, rfl⟩

theorem blockedStep_inv (b : Nat) (hb : 0 < b) (st : BlockedSt α ρ χ μ) (d : PD α ρ χ μ)
    (o : List (PD α ρ χ μ)) (st' : BlockedSt α ρ χ μ) (_ : st.n < b)
    (h : blockedStep b st d = .ok (o, st')) : st'.n < b := by
  obtain ⟨hge, -, hn⟩ | ⟨m, -, hn⟩ := blockedStep_ok h
  · rw [hn]; exact Nat.lt_of_not_le hge
  · rw [hn, (blockLoop_spec b hb m.len m (Nat.le_refl _)).1]; exact drop_complete_lt b hb _

theorem blocked_len (b : Nat) {st : BlockedSt α ρ χ μ} {l bs : List (PD α ρ χ μ)}
    (h : outputs (runStage (blockedStep b) st l) = .ok bs) : ∀ blk ∈ bs, blk.len = b := by
  obtain ⟨s', h⟩ := outputs_ok_iff.1 h
  rw [runStage_eq_run] at h
  refine StagesExt.run_forall _ (fun _ _ _ _ hstep => ?_) l h
  obtain ⟨-, rfl, -⟩ | ⟨m, rfl, -⟩ := blockedStep_ok hstep
  · exact fun _ h => nomatch h
  · exact blockLoop_len b _ _

/-- `blocked(b)` from any state that buffers `buf`.  The counter `st.n` is not tied to the buffer, only
`buf.length ≤ st.n < b`: at the restart signal (`Ellipsis`) the code drops the buffer and keeps its counter, so a
stage that has been restarted counts more samples than it holds (`blocked_restart_like_fresh`). -/
theorem blocked_run (b : Nat) (hb : 0 < b) (ann : Ann ρ χ μ) (cs : List (List α)) (buf : List α) (s t : Int)
    (st : BlockedSt α ρ χ μ) (hbuf : BufIs st.data buf t ann) (hs : s = t + buf.length) (hn : buf.length ≤ st.n)
    (hlt : st.n < b) :
    ∃ bs, outputs (runStage (blockedStep b) st (stream ann s cs)) = .ok bs
      ∧ Emits bs ((buf ++ cs.flatten).take ((buf ++ cs.flatten).length / b * b)) 1 t ann := by
  refine stream_run_emits (fun (st : BlockedSt α ρ χ μ) s t F => ∃ buf, BufIs st.data buf t ann ∧ s = t + buf.length ∧ buf.length ≤ st.n
      ∧ st.n < b ∧ F = fun x => (buf ++ x).take ((buf ++ x).length / b * b)) ?_ ?_ cs ⟨buf, hbuf, hs, hn, hlt, rfl⟩
  · rintro st s t F ⟨buf, -, -, hn, hlt, rfl⟩
    dsimp only
    rw [List.append_nil, Nat.div_eq_of_lt (Nat.lt_of_le_of_lt hn hlt), Nat.zero_mul, List.take_zero]
  · rintro st s t F c ⟨buf, hbuf, hs, hn, hlt, rfl⟩
    have hstep := blockedStep_stream b hb hbuf hs c
    by_cases hge : b ≤ st.n + c.length
    · rw [if_pos hge] at hstep
      obtain ⟨h2, he⟩ := blockLoop_spec b hb (buf ++ c).length { data := buf ++ c, s0 := t, ann := ann } (Nat.le_refl _)
      rw [h2] at hstep
      refine ⟨_, _, _, _, _, hstep, he, fun x => ?_, ?_, _, BufIs.rest _ _, ?_, Nat.le_refl _, drop_complete_lt b hb _, rfl⟩
      · dsimp only; rw [← List.append_assoc, take_complete_append b hb]; rfl
      · simp only [PD.len, length_take_complete, Int.one_mul]
      · simp only [PD.len, hs, next_pos, rest_pos]
    · rw [if_neg hge] at hstep
      refine ⟨_, _, [], _, t, hstep, Emits.nil _ _ _, fun x => ?_, ?_, _, hbuf.keep hs c, ?_, ?_, Nat.lt_of_not_le hge, rfl⟩
      · dsimp only; rw [List.nil_append, List.append_assoc]
      · rw [List.length_nil, Int.natCast_zero, Int.mul_zero, Int.add_zero]
      · rw [hs, next_pos]
      · rw [List.length_append]; exact Nat.add_le_add_right hn _

/-- `blocked(b)`: the first ⌊N/b⌋·b samples, in blocks of exactly `b`, contiguous from the input `s0` -/
theorem blocked_chunk_invariant (b : Nat) (hb : 0 < b) (ann : Ann ρ χ μ) (s : Int) (cs : List (List α)) :
    ∃ bs, outputs (runStage (blockedStep b) {} (stream ann s cs)) = .ok bs
      ∧ Emits bs (cs.flatten.take (cs.flatten.length / b * b)) 1 s ann
      ∧ ∀ blk ∈ bs, blk.len = b := by
  obtain ⟨bs, h1, h2⟩ := blocked_run b hb ann cs [] s s {} (Or.inl ⟨rfl, rfl⟩) (Int.add_zero s).symm (Nat.le_refl _) hb
  exact ⟨bs, h1, h2, blocked_len b h1⟩

theorem rmsStep_stream (blockFn : List α → β) (divFs : ρ → Nat → ρ) (n : Nat) (hn : 0 < n) {st : RmsSt α ρ χ μ}
    {buf : List α} {s t : Int} {ann : Ann ρ χ μ} (hbuf : BufIs st.data buf t ann) (hs : s = t + buf.length)
    (c : List α) :
    rmsStep blockFn divFs n st { data := c, s0 := s, ann := ann }
      = if n ≤ st.samples + c.length then
          .ok ([{ data := (blocksOf n (buf ++ c)).map blockFn, s0 := t, ann := { ann with fs := divFs ann.fs n } }],
               { data := [({ data := buf ++ c, s0 := t, ann := ann } : PD α ρ χ μ).dropN ((buf ++ c).length / n * n)],
                 samples := ((buf ++ c).drop ((buf ++ c).length / n * n)).length })
        else .ok ([], { data := st.data ++ [{ data := c, s0 := s, ann := ann }], samples := st.samples + c.length }) := by
  simp only [rmsStep, if_neg (Nat.ne_of_gt hn), hbuf.snoc hs c, PD.len, chunksOf_take_complete n hn]
  rfl

/-- `rms(n)` (as repaired): the block function of consecutive complete `n`-blocks, rate `fs/n`; `s0` fields are
numerators over `n`, advancing by `n` per emitted value -/
theorem rms_chunk_invariant (blockFn : List α → β) (divFs : ρ → Nat → ρ) (n : Nat) (hn : 0 < n)
    (ann : Ann ρ χ μ) (s : Int) (cs : List (List α)) :
    ∃ bs, outputs (runStage (rmsStep blockFn divFs n) {} (stream ann s cs)) = .ok bs
      ∧ Emits bs ((blocksOf n cs.flatten).map blockFn) n s { ann with fs := divFs ann.fs n } := by
  refine stream_run_emits (st := {}) (fun (st : RmsSt α ρ χ μ) s t F => ∃ buf, BufIs st.data buf t ann ∧ s = t + buf.length
      ∧ st.samples = buf.length ∧ buf.length < n ∧ F = fun x => (blocksOf n (buf ++ x)).map blockFn) ?_ ?_ cs
    ⟨[], Or.inl ⟨rfl, rfl⟩, (Int.add_zero s).symm, rfl, hn, rfl⟩
  · rintro st s t F ⟨buf, -, -, -, hlt, rfl⟩
    dsimp only
    rw [List.append_nil, blocksOf_short n buf hlt]; rfl
  · rintro st s t F c ⟨buf, hbuf, hs, hsamp, hlt, rfl⟩
    have hstep := rmsStep_stream blockFn divFs n hn hbuf hs c
    by_cases hge : n ≤ st.samples + c.length
    · rw [if_pos hge] at hstep
      refine ⟨_, _, _, _, _, hstep, Emits.single _ _, fun x => ?_, ?_, _, BufIs.rest _ _, ?_, rfl, drop_complete_lt n hn _, rfl⟩
      · dsimp only; rw [← List.append_assoc, blocksOf_append n hn, List.map_append]
      · simp only [List.length_map, blocksOf_count n hn]
        rw [← Int.natCast_mul, Nat.mul_comm]
      · simp only [hs, next_pos, rest_pos]
    · rw [if_neg hge] at hstep
      refine ⟨_, _, [], _, t, hstep, Emits.nil _ _ _, fun x => ?_, ?_, _, hbuf.keep hs c, ?_, ?_, ?_, rfl⟩
      · dsimp only; rw [List.nil_append, List.append_assoc]
      · rw [List.length_nil, Int.natCast_zero, Int.mul_zero, Int.add_zero]
      · rw [hs, next_pos]
      · rw [hsamp, List.length_append]
      · rw [List.length_append, ← hsamp]; exact Nat.lt_of_not_le hge

end Psi.Stages

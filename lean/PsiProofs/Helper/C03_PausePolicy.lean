import PsiProofs.Helper.C03_Hist
import PsiProofs.Helper.C03_Interleaved
import PsiProofs.Helper.C03_Blocked
/-!
Interleaved and blocked-random queues across pauses: `pause` does not touch the cursor / the
unconsumed block / the oracle streams, the ordering stays `0 … n-1`, and the completion flag is
"no counter is positive" at every point of every history.
-/
namespace Psi.Queue

/-- the test `requeue` makes (some counter positive) is the negation of `decrement_key`'s -/
theorem any_pos_eq_not_all (d : List Entry) :
    d.any (fun e => decide (e.trials > 0)) = !d.all (fun e => decide (e.trials ≤ 0)) := by
  rw [List.not_all_eq_any_not]
  congr
  funext e
  rw [← decide_not]; exact decide_eq_decide.mpr Int.not_le.symm

/-- interleaved / blocked random, common part: holds after every history -/
structure CI (n : Nat) (s : QState) : Prop where
  len : s.data.length = n
  npos : 0 < n
  delays : DelaysOK s.data
  kind : s.kind = .interleaved ∨ s.kind = .blockedRandom
  ord : s.ordering = List.range n
  compl : s.complete = true ↔ ∀ k, k < n → trv s.data k ≤ 0
  gk : ∀ i ∈ s.generated, i.key < n

theorem CI_init {s : QState} (h : Loaded s) (hk : s.kind = .interleaved ∨ s.kind = .blockedRandom)
    (hg : s.generated = []) : CI s.data.length s :=
  ⟨rfl, h.pos, h.delays, hk, h.ordering, h.compl, by simp [hg]⟩

theorem CI_of_same {n : Nat} {s s' : QState} (h : CI n s) (hv : view s' = view s)
    (hg : s'.generated = s.generated) : CI n s' := by
  have h1 : s'.data = s.data := congrArg PView.data hv
  have h2 : s'.kind = s.kind := congrArg PView.kind hv
  have h3 : s'.ordering = s.ordering := congrArg PView.ordering hv
  have h4 : s'.complete = s.complete := congrArg PView.complete hv
  exact ⟨by rw [h1]; exact h.len, h.npos, by rw [h1]; exact h.delays, by rw [h2]; exact h.kind,
    by rw [h3]; exact h.ord, by rw [h4, h1]; exact h.compl, by rw [hg]; exact h.gk⟩

theorem CI_step {n : Nat} {s sa s1 : QState} {k : Nat} (hi : CI n s) (hc : s.complete = false)
    (hkey : nextKey s = .ok (some (k, sa))) (hkl : k < n) (hn : nextTrial s = .ok (some s1)) :
    CI n s1 ∧
    view s1 = { view s with data := dataStep s.data k, keys := (view s).keys ++ [k],
                            complete := s1.complete, cursor := sa.cursor, block := sa.block,
                            draws := sa.draws, perms := sa.perms } := by
  obtain ⟨s1', hs1, hv, hcompl⟩ := complete_trial hi.len hi.delays hi.kind hi.ord hc hkey hkl
  rw [hn] at hs1
  simp only [Except.ok.injEq, Option.some.injEq] at hs1
  subst hs1
  have hdata : s1.data = dataStep s.data k := congrArg PView.data hv
  have hkind : s1.kind = s.kind := congrArg PView.kind hv
  obtain ⟨info, hik, hg⟩ := nextTrial_generated hn (congrArg PView.keys hv)
  refine ⟨⟨by rw [hdata, dataStep_length]; exact hi.len, hi.npos,
    by rw [hdata]; exact DelaysOK_dataStep hi.delays k, by rw [hkind]; exact hi.kind,
    (congrArg PView.ordering hv).trans hi.ord, hcompl, by rw [hg]; exact forall_mem_snoc hi.gk (hik ▸ hkl)⟩, hv⟩

theorem CI_pause {n : Nat} (m : Int) {s : QState} (hi : CI n s) : CI n (pause (some m) s).1 := by
  obtain ⟨ho, hd, hg, hk, _, _, _, _, _, _, _, hcomp⟩ := pause_policy m s
  have hkeys := toRequeue_lt hi.gk m
  have hcomp := hcomp hi.kind
  refine ⟨by rw [hd, foldl_setTrials_length]; exact hi.len, hi.npos, by rw [hd]; exact DelaysOK_requeue _ hi.delays,
    by rw [hk]; exact hi.kind, ?_, ?_, ?_⟩
  · rw [ho, hi.ord]
    exact insertFront_of_mem _ _ (fun k hk' => List.mem_range.mpr (hkeys k hk'))
  · have hall := all_le_iff ((toRequeue m s).foldl (fun d k => setTrials d k (· + 1)) s.data)
    rw [foldl_setTrials_length, hi.len] at hall
    rw [hcomp, hd, any_pos_eq_not_all, ← hall]
    cases hA : ((toRequeue m s).foldl (fun d k => setTrials d k (· + 1)) s.data).all
        (fun e => decide (e.trials ≤ 0)) with
    | false => simp
    | true =>
      -- nothing positive after re-queueing: nothing was positive before, and the flag was set
      simp only [Bool.not_true, Bool.false_eq_true, if_false, iff_true]
      exact hi.compl.mpr (fun k hk' => Int.le_trans (trv_le_requeue _ _ k) (hall.mp hA k hk'))
  · intro i hi'
    rw [hg] at hi'
    exact hi.gk i (List.mem_filter.mp hi').1

theorem CI_resume {n : Nat} (m : Option Int) {s : QState} (hi : CI n s) : CI n (resume m s) := by
  cases m <;> exact CI_of_same (s := s) hi rfl rfl

/-- interleaved queue (either option): the cursor is the stimulus of the most recently *notified*
trial, cancelled or not; with completed waveforms kept the full notification log is `j % n` -/
structure HIL (n : Nat) (kp : Bool) (s : QState) : Prop where
  ci : CI n s
  kind : s.kind = .interleaved
  keep : s.keep = kp
  cur : s.cursor = lastOr (keyLog s)
  rr : s.keep = true → ∀ j (h : j < (keyLog s).length), (keyLog s)[j] = j % n

theorem HIL_of_same {n : Nat} {kp : Bool} {s s' : QState} (h : HIL n kp s) (hv : view s' = view s)
    (hg : s'.generated = s.generated) : HIL n kp s' := by
  have h2 : s'.kind = s.kind := congrArg PView.kind hv
  have h3 : s'.cursor = s.cursor := congrArg PView.cursor hv
  have h4 : s'.keep = s.keep := congrArg PView.keep hv
  have h5 : keyLog s' = keyLog s := congrArg PView.keys hv
  exact ⟨CI_of_same h.ci hv hg, by rw [h2]; exact h.kind, by rw [h4]; exact h.keep,
    by rw [h3, h5]; exact h.cur, by rw [h4, h5]; exact h.rr⟩

theorem HIL_step {n : Nat} {kp : Bool} {s s1 : QState} (hi : HIL n kp s)
    (hn : nextTrial s = .ok (some s1)) : HIL n kp s1 := by
  have hnpos := hi.ci.npos
  have hord := hi.ci.ord
  cases hc : s.complete with
  | true => rw [nextTrial_of_complete (Or.inl hi.kind) hc] at hn; cases hn
  | false =>
    -- either way the new cursor is the key just notified
    have fin : ∀ {x : Int} {sa : QState}, nextKey s = .ok (some ((x % (n : Int)).toNat, sa)) →
        sa.cursor = x % (n : Int) →
        (s.keep = true → (x % (n : Int)).toNat = (keyLog s).length % n) → HIL n kp s1 := by
      intro x sa hkey hsa hrr
      obtain ⟨hci, hv⟩ := CI_step hi.ci hc hkey (idx_lt hnpos x) hn
      have hcur1 : s1.cursor = sa.cursor := congrArg PView.cursor hv
      have hkeys : keyLog s1 = keyLog s ++ [(x % (n : Int)).toNat] := congrArg PView.keys hv
      have hkeep1 : s1.keep = s.keep := congrArg PView.keep hv
      have hkind1 : s1.kind = s.kind := congrArg PView.kind hv
      refine ⟨hci, by rw [hkind1]; exact hi.kind, by rw [hkeep1]; exact hi.keep,
        by rw [hcur1, hsa, hkeys, lastOr_snoc, idx_cast hnpos], ?_⟩
      rw [hkeep1, hkeys]
      exact fun hk => snoc_each (P := fun j _ y => y = j % n) (hi.rr hk) (hrr hk)
    cases hkeep : s.keep with
    | true =>
      refine fin (nextKey_interleaved_keep hnpos hi.kind hkeep hord hc) rfl (fun _ => ?_)
      have hm := lastOr_mod (keyLog s) (hi.rr hkeep)
      rw [← hi.cur] at hm
      rw [hm]; exact Int.toNat_natCast _
    | false =>
      obtain ⟨d, _, _, hkey, _, _⟩ := nextKey_interleaved_nokeep hnpos hi.kind hkeep hord hc
        ((open_closed_of_iff hi.ci.compl).1 hc)
      exact fin hkey rfl (fun hk => by rw [hkeep] at hk; cases hk)

theorem HIL_pause {n : Nat} {kp : Bool} (m : Int) {s : QState} (hi : HIL n kp s) :
    HIL n kp (pause (some m) s).1 := by
  obtain ⟨_, _, _, hkind, hkeep, _, hcur, _, _, _, hadd, _⟩ := pause_policy m s
  have hk : keyLog (pause (some m) s).1 = keyLog s := by rw [keyLog, hadd]; rfl
  exact ⟨CI_pause m hi.ci, by rw [hkind]; exact hi.kind, by rw [hkeep]; exact hi.keep,
    by rw [hcur, hk]; exact hi.cur, by rw [hkeep, hk]; exact hi.rr⟩

theorem HIL_init {s : QState} (h : Loaded s) (hk : s.kind = .interleaved) (hg : s.generated = []) :
    HIL s.data.length s.keep s := by
  refine ⟨CI_init h (Or.inl hk) hg, hk, rfl, ?_, ?_⟩
  · simp [keyLog, h.added, h.cursor, lastOr]
  · intro _ j hj; simp [keyLog, h.added] at hj

/-- blocked-random queue: the full notification log followed by the unconsumed part of the current
shuffle is a whole number of the oracle's shuffles -/
structure HBR (n : Nat) (P0 : List (List Nat)) (s : QState) : Prop where
  ci : CI n s
  kind : s.kind = .blockedRandom
  permsOK : ∀ p ∈ P0, p.Perm (List.range n)
  blocks : ∃ b, b ≤ P0.length ∧ s.perms = P0.drop b ∧
    keyLog s ++ s.block.reverse = (P0.take b).flatMap List.reverse
  blockLt : s.block.length < n ∧ ∀ i ∈ s.block, i < n

theorem HBR_of_same {n : Nat} {P0 : List (List Nat)} {s s' : QState} (h : HBR n P0 s)
    (hv : view s' = view s) (hg : s'.generated = s.generated) : HBR n P0 s' := by
  have h2 : s'.kind = s.kind := congrArg PView.kind hv
  have h3 : s'.perms = s.perms := congrArg PView.perms hv
  have h4 : s'.block = s.block := congrArg PView.block hv
  have h5 : keyLog s' = keyLog s := congrArg PView.keys hv
  exact ⟨CI_of_same h.ci hv hg, by rw [h2]; exact h.kind, h.permsOK, by rw [h3, h4, h5]; exact h.blocks,
    by rw [h4]; exact h.blockLt⟩

theorem HBR_step {n : Nat} {P0 : List (List Nat)} {s s1 : QState} (hi : HBR n P0 s)
    (hn : nextTrial s = .ok (some s1)) : HBR n P0 s1 := by
  have hkind := hi.kind
  cases hc : s.complete with
  | true => rw [nextTrial_of_complete (Or.inr hi.kind) hc] at hn; cases hn
  | false =>
    have hne : s.block = [] → s.perms ≠ [] := by
      intro hb hps
      have : nextKey s = .error .oracle := by
        unfold nextKey; simp [hkind, hc, hb, hps]
      have : nextTrial s = .error .oracle := by unfold nextTrial; rw [this]
      rw [this] at hn; simp at hn
    obtain ⟨i, sa, hil, hkey, hblocks, hblt, _⟩ :=
      blocked_nextKey hkind hi.ci.ord hc hi.permsOK hi.blocks hi.blockLt hne
    obtain ⟨hci, hv⟩ := CI_step hi.ci hc hkey hil hn
    have hkind1 : s1.kind = s.kind := congrArg PView.kind hv
    have hperms1 : s1.perms = sa.perms := congrArg PView.perms hv
    have hblock1 : s1.block = sa.block := congrArg PView.block hv
    have hkeys : keyLog s1 = keyLog s ++ [i] := congrArg PView.keys hv
    exact ⟨hci, by rw [hkind1]; exact hkind, hi.permsOK, by rw [hperms1, hblock1, hkeys]; exact hblocks,
      by rw [hblock1]; exact hblt⟩

theorem HBR_pause {n : Nat} {P0 : List (List Nat)} (m : Int) {s : QState} (hi : HBR n P0 s) :
    HBR n P0 (pause (some m) s).1 := by
  obtain ⟨_, _, _, hkind, _, _, _, hblock, hperms, _, hadd, _⟩ := pause_policy m s
  have hk : keyLog (pause (some m) s).1 = keyLog s := by rw [keyLog, hadd]; rfl
  exact ⟨CI_pause m hi.ci, by rw [hkind]; exact hi.kind, hi.permsOK,
    by rw [hperms, hblock, hk]; exact hi.blocks, by rw [hblock]; exact hi.blockLt⟩

theorem HBR_init {s : QState} (h : Loaded s) (hk : s.kind = .blockedRandom) (hg : s.generated = [])
    (hp : ∀ p ∈ s.perms, p.Perm (List.range s.data.length)) : HBR s.data.length s.perms s := by
  exact ⟨CI_init h (Or.inr hk) hg, hk, hp,
    ⟨0, Nat.zero_le _, by simp, by simp [keyLog, h.added, h.block]⟩, ⟨by simp [h.block, h.pos], by simp [h.block]⟩⟩

end Psi.Queue

import PsiModel.Stim
import PsiProofs.Helper.C01_Stim
/-! Sample bookkeeping of finite stimuli and the shape of the full envelope (C09). -/
set_option linter.dupNamespace false
namespace Psi.Stim
open Psi.Chunk

def Stim.total : Stim → Option Nat
  | .fixed w _ => some w.length
  | .gate start dur _ _ => some (start + dur)
  | .env _ p _ _ => some (p.start + p.dur)
  | _ => none

/-- Running offset of the top-level factory (samples drawn since reset). -/
def Stim.drawn : Stim → Nat
  | .leaf _ off => off
  | .sqwave _ _ _ off => off
  | .fixed _ off => off
  | .gate _ _ off _ => off
  | .env _ _ off _ => off
  | .sam _ _ off _ => off
  | .sqenv _ _ off _ => off
  | .filt _ _ off _ => off

theorem total_next (g : Stim) (n : Nat) : (g.next n).2.total = g.total := by
  cases g with
  | env id p off inner =>
    simp only [Stim.next]
    split <;> rfl
  | _ => rfl

theorem drawn_next (g : Stim) (h : g.WFs) (n : Nat) : (g.next n).2.drawn = g.drawn + n := by
  cases g with
  | env id p off inner =>
    simp only [Stim.next]
    rw [envelope_fragment_eq_slice _ p h.1]
    rfl
  | sam id delay off inner =>
    simp only [Stim.next, Stim.drawn, Stim.next_length inner h n]
  | sqenv id p off inner =>
    simp only [Stim.next, Stim.drawn, Stim.next_length inner h.2 n]
  | filt id j off inner =>
    simp only [Stim.next, Stim.drawn, Stim.next_length inner h n]
  | _ => rfl

theorem remaining_of_total (g : Stim) (T : Nat) (h : g.total = some T) :
    g.remaining = .fin (T - g.drawn) ∧ g.complete = decide (T ≤ g.drawn) ∧ g.nSamples = .fin T := by
  cases g <;> first
    | (simp only [Stim.total, Option.some.injEq] at h; subst h; exact ⟨rfl, rfl, rfl⟩)
    | (simp [Stim.total] at h)

theorem remaining_next (g : Stim) (h : g.WFs) (T : Nat) (hT : g.total = some T) (n : Nat) :
    (g.next n).2.remaining = .fin (T - (g.drawn + n))
      ∧ (g.next n).2.complete = decide (T ≤ g.drawn + n) ∧ (g.next n).2.nSamples = .fin T := by
  have := remaining_of_total (g.next n).2 T ((total_next g n).trans hT)
  rwa [drawn_next g h n] at this

theorem envelopeFrag_full {α : Type} [Sample α] (ramp : Nat → α) (lb dur r : Nat) (h : 2 * r ≤ dur) :
    envelopeFrag ramp lb dur r 0 (lb + dur)
      = List.replicate lb Sample.zero ++ ((List.range r).map ramp
        ++ (List.replicate (dur - 2 * r) Sample.one ++ (List.range r).map fun i => ramp (r + i))) := by
  rw [envelopeFrag_eq_window ramp lb dur r 0 (lb + dur) h]
  have hlen := envFull_length ramp lb dur r h
  have hseg : seg (envFull ramp lb dur r) ((0 : Nat) : Int) (lb + dur) = envFull ramp lb dur r := by
    simp only [seg, Int.toNat_natCast, List.drop_zero]
    rw [← hlen, List.take_length]
  rw [hseg, hlen, Nat.sub_self]
  exact List.append_nil _

end Psi.Stim

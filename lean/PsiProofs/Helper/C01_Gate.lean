import PsiModel.Stim
import PsiProofs.Helper.C01_Env
import PsiProofs.Helper.C01_Update
import PsiProofs.Helper.C01_Repeat
/-! Fragment theorems for `GateFactory.next`, `FixedWaveform.next`, `_sam_envelope`. -/
namespace Psi.Stim
open Psi.Chunk

variable {α : Type}

/-- Both slice assignments of `GateFactory.next` in one form: a negative bound assigns nothing
before it (`toNat` is 0), and with `ub ≤ 0` everything is zeroed. -/
theorem gateMask_eq [Sample α] (start dur off : Nat) (tok : List α) :
    gateMask start dur off tok
      = zeroFrom ((start : Int) - off + dur).toNat (zeroPrefix ((start : Int) - off).toNat tok) := by
  unfold gateMask
  simp only []
  have h1 : (if (start : Int) - off ≥ 0 then zeroPrefix ((start : Int) - off).toNat tok else tok)
      = zeroPrefix ((start : Int) - off).toNat tok := by
    split
    · rfl
    · rw [Int.toNat_of_nonpos (by omega)]; exact (List.drop_zero).symm
  rw [h1]
  split
  · rfl
  · rw [Int.toNat_of_nonpos (show (start : Int) - off + dur ≤ 0 by omega)]; rfl

/-- `GateFactory.next` (with fix 1): the token sample at absolute index `k` passes iff
`start ≤ k < start + duration`, else it is forced to zero — including chunks that begin or end
past the end of the gate. -/
theorem gate_fragment_eq_slice {α : Type} [Sample α] (start dur off : Nat) (tok : List α) :
    gateMask start dur off tok = applyAt (gateAt start dur) off tok := by
  apply List.ext_getElem?
  intro i
  rw [applyAt_getElem?, gateMask_eq, zeroFrom_eq_setRange, zeroPrefix_eq_setRange, setRange_getElem?,
    setRange_getElem?, setRange_length]
  by_cases hi : i < tok.length
  · rw [List.getElem?_eq_getElem hi]
    simp only [Option.map_some, gateAt, Int.toNat_le, Int.lt_toNat]
    by_cases hc : start ≤ off + i ∧ off + i < start + dur
    · rw [if_neg (by omega), if_neg (by omega), if_pos hc]
    · rw [if_neg hc]
      by_cases h1 : (start : Int) - off + dur ≤ i
      · rw [if_pos ⟨h1, hi⟩]
      · rw [if_neg (by omega), if_pos (by omega)]
  · rw [List.getElem?_eq_none (by omega)]
    rfl

/-- `FixedWaveform.next`: the stored array read at the absolute index, zero past its end. -/
theorem fixed_fragment_eq_slice {α : Type} [Sample α] (w : List α) (off n : Nat) :
    fixedNext w off n = slice (fixedAt w) off n := by
  have hw : (w.take (off + n)).drop off = seg w off n := by
    rw [List.drop_take, Nat.add_sub_cancel_left]
    rfl
  rw [← window_pad_eq_slice w Sample.zero (fixedAt w)
    (fun k hk => by rw [fixedAt, List.getElem?_eq_getElem hk])
    (fixedAt_of_le w) off n]
  unfold fixedNext
  simp only [hw]
  split
  · rfl
  · rename_i h
    rw [Nat.sub_eq_zero_of_le (Nat.le_of_not_lt h), List.replicate_zero, List.append_nil]

/-- `_sam_envelope` (with fix 2): one during the delay, then the modulator at the time elapsed
since the modulation onset, for every split of the delay across calls. -/
theorem sam_fragment_eq_slice {α : Type} [Sample α] (sam : Int → α) (delay off n : Nat) :
    samEnvelope sam delay off n = slice (samAt sam delay) off n := by
  unfold samEnvelope
  simp only [clip_zero_natCast, Int.toNat_sub, Int.toNat_natCast]
  refine eq_slice (by rw [List.length_append, List.length_replicate, List.length_map, List.length_range]; omega)
    fun i hi => ?_
  rw [List.getElem?_append, List.length_replicate, List.getElem?_replicate]
  unfold samAt
  by_cases hd : i < min (delay - off) n
  · rw [if_pos hd, if_pos hd, if_pos (by omega)]
  · rw [if_neg hd, if_neg (by omega), List.getElem?_map, List.getElem?_range (by omega), Option.map_some]
    congr 2
    omega

end Psi.Stim

import Mathlib.RingTheory.RootsOfUnity.Complex
import Mathlib.Analysis.SpecialFunctions.Trigonometric.Basic
import Mathlib.Algebra.Field.GeomSum
/-!
Sums of `n`-th roots of unity.  `∑_{j<n} χ_t(j) = n` if `n ∣ t`, else `0`, and a phase-shifted cosine times a
character is half the sum of two characters: together these give the DFT of a tone and of a cosine-modulated
signal.  The real cosine sum with a phase offset serves mean squares and the orthogonality kernel of the inverse
transform; the sine sums are its shift by `π/2`.
-/
open Finset

namespace Psi.Db.C16

open Complex in
/-- the character `χ_t(j) = e^{2πi·tj/n}` of `ℤ/n` -/
noncomputable def chi (n : ℕ) (t : ℤ) (j : ℕ) : ℂ := Complex.exp (2 * Real.pi * I * (t * j) / n)

open Complex in
theorem chi_eq_pow (n : ℕ) (t : ℤ) (j : ℕ) :
    chi n t j = ((Complex.exp (2 * Real.pi * I / n)) ^ t) ^ j := by
  rw [chi, ← Complex.exp_int_mul, ← Complex.exp_nat_mul]
  congr 1
  ring

open Complex in
theorem sum_chi (n : ℕ) (hn : 0 < n) (t : ℤ) :
    ∑ j ∈ range n, chi n t j = if (n : ℤ) ∣ t then (n : ℂ) else 0 := by
  have hζ := Complex.isPrimitiveRoot_exp n hn.ne'
  simp_rw [chi_eq_pow]
  split_ifs with h
  · have h1 : Complex.exp (2 * Real.pi * I / n) ^ t = 1 := (hζ.zpow_eq_one_iff_dvd t).2 h
    simp [h1]
  · have h1 : Complex.exp (2 * Real.pi * I / n) ^ t ≠ 1 :=
      fun e => h ((hζ.zpow_eq_one_iff_dvd t).1 e)
    have hn1 : (Complex.exp (2 * Real.pi * I / n) ^ t) ^ n = 1 := by
      rw [← zpow_natCast, zpow_comm, zpow_natCast, hζ.pow_eq_one, one_zpow]
    rw [geom_sum_eq h1, hn1, sub_self, zero_div]

open Complex in
theorem cos_mul_chi (n : ℕ) (a t : ℤ) (j : ℕ) (p : ℝ) :
    ((Real.cos (2 * Real.pi * a * j / n + p) : ℝ) : ℂ) * chi n t j
      = (Complex.exp (p * I) * chi n (t + a) j + Complex.exp (-(p * I)) * chi n (t - a) j) / 2 := by
  rw [chi, chi, chi, ← Complex.exp_add, ← Complex.exp_add, Complex.ofReal_cos, Complex.cos,
    div_mul_eq_mul_div, add_mul, ← Complex.exp_add, ← Complex.exp_add]
  congr 3 <;> (push_cast; ring)

theorem chi_zero (n : ℕ) (j : ℕ) : chi n 0 j = 1 := by
  rw [chi, Int.cast_zero, zero_mul, mul_zero, zero_div, Complex.exp_zero]

theorem sum_cos_shift (n : ℕ) (hn : 0 < n) (t : ℤ) (φ : ℝ) :
    ∑ j ∈ range n, Real.cos (2 * Real.pi * t * j / n + φ)
      = if (n : ℤ) ∣ t then (n : ℝ) * Real.cos φ else 0 := by
  -- `cos_mul_chi` at `t = 0`: the cosine is half the sum of `χ_t` and `χ_{-t}`, which sum to `n` or `0` together
  have h : ∀ j : ℕ, ((Real.cos (2 * Real.pi * t * j / n + φ) : ℝ) : ℂ)
      = (Complex.exp (φ * Complex.I) * chi n t j
          + Complex.exp (-(φ * Complex.I)) * chi n (-t) j) * 2⁻¹ := fun j => by
    rw [← mul_one (Complex.ofReal _), ← chi_zero n j, cos_mul_chi, zero_add, zero_sub, div_eq_mul_inv]
  apply Complex.ofReal_injective
  rw [Complex.ofReal_sum, Finset.sum_congr rfl fun j _ => h j, ← Finset.sum_mul, Finset.sum_add_distrib,
    ← Finset.mul_sum, ← Finset.mul_sum, sum_chi n hn, sum_chi n hn]
  simp only [Int.dvd_neg]
  split_ifs
  · rw [Complex.ofReal_mul, Complex.ofReal_cos, Complex.cos, Complex.ofReal_natCast, neg_mul]
    ring
  · rw [mul_zero, mul_zero, zero_add, zero_mul, Complex.ofReal_zero]

theorem sum_sin_shift (n : ℕ) (hn : 0 < n) (t : ℤ) (φ : ℝ) :
    ∑ j ∈ range n, Real.sin (2 * Real.pi * t * j / n + φ)
      = if (n : ℤ) ∣ t then (n : ℝ) * Real.sin φ else 0 := by
  -- `sin x = cos (x - π/2)`
  have h := sum_cos_shift n hn t (φ - Real.pi / 2)
  simp only [← add_sub_assoc, Real.cos_sub_pi_div_two] at h
  exact h

theorem sum_cos_shift_of_not_dvd (n : ℕ) (hn : 0 < n) (t : ℤ) (φ : ℝ) (h : ¬ (n : ℤ) ∣ t) :
    ∑ j ∈ range n, Real.cos (2 * Real.pi * t * j / n + φ) = 0 := by
  rw [sum_cos_shift n hn, if_neg h]

theorem sum_cos_shift_of_dvd (n : ℕ) (hn : 0 < n) (t : ℤ) (φ : ℝ) (h : (n : ℤ) ∣ t) :
    ∑ j ∈ range n, Real.cos (2 * Real.pi * t * j / n + φ) = n * Real.cos φ := by
  rw [sum_cos_shift n hn, if_pos h]

theorem sum_sin_shift_of_not_dvd (n : ℕ) (hn : 0 < n) (t : ℤ) (φ : ℝ) (h : ¬ (n : ℤ) ∣ t) :
    ∑ j ∈ range n, Real.sin (2 * Real.pi * t * j / n + φ) = 0 := by
  rw [sum_sin_shift n hn, if_neg h]

theorem sum_sin_shift_of_dvd (n : ℕ) (hn : 0 < n) (t : ℤ) (φ : ℝ) (h : (n : ℤ) ∣ t) :
    ∑ j ∈ range n, Real.sin (2 * Real.pi * t * j / n + φ) = n * Real.sin φ := by
  rw [sum_sin_shift n hn, if_pos h]

theorem not_dvd_sub_of_lt {n a b : ℕ} (ha : a < n) (hb : b < n) (hab : a ≠ b) : ¬ (n : ℤ) ∣ (a : ℤ) - b :=
  fun h => hab ((Nat.modEq_iff_dvd.2 h).eq_of_lt_of_lt hb ha).symm

theorem sum_cos_sub (n a b : ℕ) (ha : a < n) (hb : b < n) :
    ∑ j ∈ range n, Real.cos (2 * Real.pi * ((a : ℤ) - b : ℤ) * j / n) = if a = b then (n : ℝ) else 0 := by
  have h := sum_cos_shift n (Nat.zero_lt_of_lt ha) ((a : ℤ) - b) 0
  simp only [add_zero, Real.cos_zero, mul_one] at h
  rw [h]
  by_cases h0 : a = b
  · rw [if_pos h0, if_pos (by rw [h0, sub_self]; exact dvd_zero _)]
  · rw [if_neg h0, if_neg (not_dvd_sub_of_lt ha hb h0)]

end Psi.Db.C16

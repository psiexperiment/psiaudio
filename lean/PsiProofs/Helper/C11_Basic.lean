import PsiModel.PData
namespace Psi.PData

theorem clampPos_nonneg (v : Int) (n : Nat) : 0 ≤ clampPos v n := by
  unfold clampPos; split <;> split <;> omega

theorem clampPos_le (v : Int) (n : Nat) : clampPos v n ≤ n := by
  unfold clampPos; split <;> split <;> omega

theorem sliceLen_one (a b : Int) : sliceLen a b 1 = (b - a).toNat := by
  unfold sliceLen
  simp only [Int.one_pos, ↓reduceIte, Int.ediv_one]
  split <;> omega

theorem sliceLen_unit (a b : Nat) : sliceLen a b 1 = b - a := by
  rw [sliceLen_one]; omega

def startNat (s : PySlice) (n : Nat) : Nat :=
  match s.start with | none => 0 | some v => (clampPos v n).toNat

def stopNat (s : PySlice) (n : Nat) : Nat :=
  match s.stop with | none => n | some v => (clampPos v n).toNat

theorem clampPos_toNat_le (v : Int) (n : Nat) : (clampPos v n).toNat ≤ n := by
  have := clampPos_le v n; omega

theorem stopNat_le (s : PySlice) (n : Nat) : stopNat s n ≤ n := by
  unfold stopNat; split
  · omega
  · exact clampPos_toNat_le _ n

theorem sliceIndices_pos (s : PySlice) (n : Nat) (k : Int) (hk : 0 < k) (hs : s.step.getD 1 = k) :
    sliceIndices s n = .ok ((startNat s n : Int), (stopNat s n : Int), k) := by
  obtain ⟨st, sp, step⟩ := s
  have h0 : ¬ k = 0 := by omega
  cases st <;> cases sp <;>
    simp only [sliceIndices, startNat, stopNat, hs, h0, ↓reduceIte, hk, Int.natCast_zero] <;>
    (try rename_i v; have := clampPos_nonneg v n) <;> (try rename_i w; have := clampPos_nonneg w n) <;>
    simp only [Int.toNat_of_nonneg, *]

theorem slicePositions_unit (s : PySlice) (n : Nat) (hs : s.step.getD 1 = 1) :
    slicePositions s n = .ok (List.range' (startNat s n) (stopNat s n - startNat s n)) := by
  unfold slicePositions
  rw [sliceIndices_pos s n 1 (by omega) hs]
  simp only [sliceLen_one]
  congr 1
  apply List.ext_getElem
  · simp
  · intro i h1 h2
    simp at h1 h2 ⊢
    omega

theorem slicePositions_pos (s : PySlice) (n : Nat) (k : Int) (hk : 0 < k) (hs : s.step.getD 1 = k) :
    slicePositions s n = .ok ((List.range (sliceLen (startNat s n) (stopNat s n) k)).map
      fun (j : Nat) => ((startNat s n : Int) + (j : Int) * k).toNat) := by
  unfold slicePositions
  rw [sliceIndices_pos s n k hk hs]

theorem slicePositions_step {s : PySlice} {n : Nat} {ps : List Nat} (h : slicePositions s n = .ok ps) : s.step ≠ some 0 := by
  intro h0
  simp [slicePositions, sliceIndices, h0] at h

theorem slicePositions_all (n : Nat) : slicePositions .all n = .ok (List.range n) := by
  rw [slicePositions_unit _ _ (by rfl)]
  simp [startNat, stopNat, PySlice.all, List.range_eq_range']

end Psi.PData

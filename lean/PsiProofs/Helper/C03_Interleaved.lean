import PsiProofs.Helper.C03_Policy
/-! Interleaved FIFO: with `keep_complete_waveforms=True` strict round-robin until all are satisfied,
with `False` round-robin that skips satisfied stimuli. -/
namespace Psi.Queue

theorem probe_range {n : Nat} (hn : 0 < n) (i : Int) :
    (List.range n)[((i + 1) % (n : Int)).toNat]? = some ((i + 1) % (n : Int)).toNat :=
  List.getElem?_range (idx_lt hn (i + 1))

theorem scan_keep {s : QState} {n : Nat} (hn : 0 < n) (hk : s.keep = true)
    (ho : s.ordering = List.range n) (fuel : Nat) (i : Int) :
    interleavedScan s (fuel + 1) i =
      .ok (((i + 1) % (n : Int)).toNat, (i + 1) % (n : Int)) := by
  unfold interleavedScan
  simp only [ho, List.length_range, probe_range hn, hk, if_true]

theorem nextKey_interleaved_keep {s : QState} {n : Nat} (hn : 0 < n) (hkind : s.kind = .interleaved)
    (hk : s.keep = true) (ho : s.ordering = List.range n) (hc : s.complete = false) :
    nextKey s = .ok (some (((s.cursor + 1) % (n : Int)).toNat,
      { s with cursor := (s.cursor + 1) % (n : Int) })) := by
  unfold nextKey
  have hl : s.ordering.length = n := by simp [ho]
  obtain ⟨m, rfl⟩ : ∃ m, n = m + 1 := ⟨n - 1, by omega⟩
  simp only [hkind, hc, Bool.false_eq_true, if_false, hl, scan_keep hn hk ho]
  rw [if_neg (Nat.succ_ne_zero m)]

structure RRInv (n : Nat) (req : Nat → Int) (v : PView) : Prop where
  base : Base n req v
  kind : v.kind = .interleaved
  keep : v.keep = true
  ord : v.ordering = List.range n
  cur : (v.cursor + 1) % (n : Int) = ((v.keys.length % n : Nat) : Int)
  rr : ∀ j (h : j < v.keys.length), v.keys[j] = j % n
  open_ : v.complete = false → ∃ k, k < n ∧ 0 < trv v.data k
  closed : v.complete = true → ∀ k, k < n → trv v.data k ≤ 0
  first : ∀ m, m < v.keys.length → ∃ k, k < n ∧ (((v.keys.take m).count k : Nat) : Int) < req k

theorem RRInv_init {s : QState} (h : Loaded s) (hk : s.kind = .interleaved) (hkeep : s.keep = true) :
    RRInv s.data.length (fun k => trialsOf s k) (view s) := by
  obtain ⟨hopen, hclosed⟩ := open_closed_of_iff h.compl
  refine ⟨Base_init h, hk, hkeep, h.ordering, ?_, ?_, hopen, hclosed, ?_⟩
  · simp [view, h.cursor, h.added]
  · intro j hj; simp [view, h.added] at hj
  · intro m hm; simp [view, h.added] at hm

theorem RRInv_step {n : Nat} {req : Nat → Int} (s : QState) (hi : RRInv n req (view s)) :
    nextTrial s = .ok none ∨ ∃ s1, nextTrial s = .ok (some s1) ∧ RRInv n req (view s1) := by
  have hn := hi.base.npos
  have hkind : s.kind = .interleaved := hi.kind
  cases hc : s.complete with
  | true => exact Or.inl (nextTrial_of_complete (Or.inl hkind) hc)
  | false =>
    right
    have hord : s.ordering = List.range n := hi.ord
    have hkey := nextKey_interleaved_keep hn hkind hi.keep hord hc
    have hcur : (s.cursor + 1) % (n : Int) = (((view s).keys.length % n : Nat) : Int) := hi.cur
    generalize hL : (view s).keys.length = L at hcur
    have hkn : ((s.cursor + 1) % (n : Int)).toNat = L % n := by rw [hcur]; exact Int.toNat_natCast _
    rw [hkn, hcur] at hkey
    have hkl : L % n < n := Nat.mod_lt _ hn
    obtain ⟨s1, hs1, hv, hcompl⟩ :=
      complete_trial hi.base.len hi.base.delays (Or.inl hkind) hord hc hkey hkl
    have hkeys : (view s1).keys = (view s).keys ++ [L % n] := by rw [hv]
    obtain ⟨hopen, hclosed⟩ := open_closed_of_iff hcompl
    refine ⟨s1, hs1, Base_step hi.base hkl (by rw [hv]; rfl) hkeys, by rw [hv]; exact hkind,
      by rw [hv]; exact hi.keep, by rw [hv]; exact hord, ?_, ?_, hopen, hclosed, ?_⟩
    · have : (view s1).cursor = ((L % n : Nat) : Int) := by rw [hv]
      rw [this, hkeys, List.length_append, hL, List.length_singleton, ← Nat.mod_add_mod]
      push_cast
      rfl
    · rw [hkeys]
      exact snoc_each (P := fun j _ x => x = j % n) hi.rr (by rw [hL])
    · rw [hkeys]
      obtain ⟨k, hk, hp⟩ := hi.open_ hc
      exact snoc_each (P := fun _ pre _ => ∃ k, k < n ∧ ((pre.count k : Nat) : Int) < req k) hi.first
        ⟨k, hk, (hi.base.unsat_iff hk).mp hp⟩

/-- one probe of the `while True` loop of `Interleaved.next_key` when completed stimuli are dropped -/
theorem scan_succ {s : QState} {n : Nat} (hn : 0 < n) (hk : s.keep = false)
    (ho : s.ordering = List.range n) (fuel : Nat) (i : Int) :
    interleavedScan s (fuel + 1) i =
      if 0 < trv s.data ((i + 1) % (n : Int)).toNat
      then .ok (((i + 1) % (n : Int)).toNat, (i + 1) % (n : Int))
      else interleavedScan s fuel ((i + 1) % (n : Int)) := by
  conv => lhs; unfold interleavedScan
  simp only [ho, List.length_range, probe_range hn, hk, Bool.false_eq_true, if_false, trialsOf_eq]

/-- what the loop returns: the first position after `i` (cyclically) whose counter is positive; `t`
counts the positions passed over -/
theorem scan_nokeep {s : QState} {n : Nat} (hn : 0 < n) (hk : s.keep = false)
    (ho : s.ordering = List.range n) :
    ∀ (fuel : Nat) (i : Int),
      (∃ t : Nat, t < fuel ∧ 0 < trv s.data ((i + 1 + (t : Int)) % (n : Int)).toNat) →
      ∃ d : Nat, d < fuel ∧
        interleavedScan s fuel i =
          .ok (((i + 1 + (d : Int)) % (n : Int)).toNat, (i + 1 + (d : Int)) % (n : Int)) ∧
        0 < trv s.data ((i + 1 + (d : Int)) % (n : Int)).toNat ∧
        ∀ t : Nat, t < d → trv s.data ((i + 1 + (t : Int)) % (n : Int)).toNat ≤ 0 := by
  intro fuel
  induction fuel with
  | zero => intro i ⟨t, h, _⟩; exact absurd h (Nat.not_lt_zero t)
  | succ fuel ih =>
    intro i ⟨t, ht, htp⟩
    have e0 : i + 1 + ((0 : Nat) : Int) = i + 1 := Int.add_zero _
    have e : ∀ x : Nat, ((i + 1) % (n : Int) + 1 + (x : Int)) % (n : Int) =
        (i + 1 + ((x + 1 : Nat) : Int)) % (n : Int) := by
      intro x
      rw [Int.add_assoc ((i + 1) % (n : Int)), Int.emod_add_emod, Int.natCast_succ, Int.add_comm (x : Int) 1]
    rw [scan_succ hn hk ho]
    by_cases hp : 0 < trv s.data ((i + 1) % (n : Int)).toNat
    · rw [if_pos hp]
      exact ⟨0, Nat.succ_pos _, by rw [e0], by rw [e0]; exact hp, fun t h => absurd h (Nat.not_lt_zero t)⟩
    · rw [if_neg hp]
      cases t with
      | zero => rw [e0] at htp; exact absurd htp hp
      | succ t =>
        obtain ⟨d, hd, hscan, hdp, hdz⟩ := ih ((i + 1) % (n : Int)) ⟨t, Nat.lt_of_succ_lt_succ ht, by rw [e]; exact htp⟩
        rw [e] at hscan hdp
        refine ⟨d + 1, Nat.succ_lt_succ hd, hscan, hdp, ?_⟩
        intro t' ht'
        cases t' with
        | zero => rw [e0]; exact Int.not_lt.mp hp
        | succ t' =>
          have := hdz t' (Nat.lt_of_succ_lt_succ ht')
          rw [e] at this; exact this

theorem reach {n : Nat} (hn : 0 < n) (i : Int) {k : Nat} (hk : k < n) :
    ∃ t : Nat, t < n ∧ ((i + 1 + (t : Int)) % (n : Int)).toNat = k := by
  refine ⟨(((k : Int) - i - 1) % (n : Int)).toNat, idx_lt hn _, ?_⟩
  rw [idx_cast hn, Int.add_emod_emod]
  have : i + 1 + ((k : Int) - i - 1) = (k : Int) := by omega
  rw [this, Int.emod_eq_of_lt (by omega) (by omega)]
  exact Int.toNat_natCast k

theorem nextKey_interleaved_nokeep {s : QState} {n : Nat} (hn : 0 < n) (hkind : s.kind = .interleaved)
    (hk : s.keep = false) (ho : s.ordering = List.range n) (hc : s.complete = false)
    (hex : ∃ k, k < n ∧ 0 < trv s.data k) :
    ∃ d : Nat, 1 ≤ d ∧ d ≤ n ∧
      nextKey s = .ok (some (((s.cursor + (d : Int)) % (n : Int)).toNat,
        { s with cursor := (s.cursor + (d : Int)) % (n : Int) })) ∧
      0 < trv s.data ((s.cursor + (d : Int)) % (n : Int)).toNat ∧
      ∀ t : Nat, 1 ≤ t → t < d → trv s.data ((s.cursor + (t : Int)) % (n : Int)).toNat ≤ 0 := by
  obtain ⟨k, hkn, hkp⟩ := hex
  obtain ⟨t, ht, htk⟩ := reach hn s.cursor hkn
  obtain ⟨d, hd, hscan, hdp, hdz⟩ := scan_nokeep hn hk ho n s.cursor ⟨t, ht, by rw [htk]; exact hkp⟩
  have e : ∀ x : Nat, s.cursor + 1 + (x : Int) = s.cursor + ((x + 1 : Nat) : Int) := by
    intro x; rw [Int.natCast_succ, Int.add_assoc, Int.add_comm 1]
  rw [e] at hscan hdp
  refine ⟨d + 1, Nat.succ_pos d, Nat.succ_le_of_lt hd, ?_, hdp, ?_⟩
  · unfold nextKey
    have hl : s.ordering.length = n := by simp [ho]
    have hl0 : ¬ n = 0 := by omega
    simp only [hkind, hc, Bool.false_eq_true, if_false, hl, hl0, hscan]
  · intro t ht1 ht2
    have := hdz (t - 1) (Nat.sub_lt_right_of_lt_add ht1 ht2)
    rw [e, Nat.sub_add_cancel ht1] at this
    exact this

/-- cursor value implied by the key log: the last key, −1 before the first trial -/
def lastOr (L : List Nat) : Int :=
  match L.getLast? with
  | some k => (k : Int)
  | none => -1

/-- `k` is the next unsatisfied stimulus after position `prev` in cyclic order, given the trials
`P` presented so far: `k` is `d` places further, is unsatisfied, and every stimulus passed over is
satisfied. -/
def NextUnsat (n : Nat) (req : Nat → Int) (prev : Int) (P : List Nat) (k : Nat) : Prop :=
  ∃ d : Nat, 1 ≤ d ∧ d ≤ n ∧ (k : Int) = (prev + (d : Int)) % (n : Int) ∧
    ((P.count k : Nat) : Int) < req k ∧
    ∀ t : Nat, 1 ≤ t → t < d →
      req ((prev + (t : Int)) % (n : Int)).toNat ≤ ((P.count ((prev + (t : Int)) % (n : Int)).toNat : Nat) : Int)

structure SkipInv (n : Nat) (req : Nat → Int) (v : PView) : Prop where
  base : Base n req v
  kind : v.kind = .interleaved
  keep : v.keep = false
  ord : v.ordering = List.range n
  cur : v.cursor = lastOr v.keys
  nonneg : ∀ k, k < n → 0 ≤ trv v.data k
  open_ : v.complete = false → ∃ k, k < n ∧ 0 < trv v.data k
  closed : v.complete = true → ∀ k, k < n → trv v.data k ≤ 0
  order : ∀ j (h : j < v.keys.length), NextUnsat n req (lastOr (v.keys.take j)) (v.keys.take j) v.keys[j]

theorem SkipInv_init {s : QState} (h : Loaded s) (hk : s.kind = .interleaved) (hkeep : s.keep = false) :
    SkipInv s.data.length (fun k => trialsOf s k) (view s) := by
  obtain ⟨hopen, hclosed⟩ := open_closed_of_iff h.compl
  refine ⟨Base_init h, hk, hkeep, h.ordering, ?_, fun k hk' => Int.le_of_lt (h.trv_pos hk'), hopen, hclosed, ?_⟩
  · simp [view, h.cursor, h.added, lastOr]
  · intro m hm; simp [view, h.added] at hm

theorem lastOr_snoc (L : List Nat) (k : Nat) : lastOr (L ++ [k]) = (k : Int) := by
  simp [lastOr]

theorem lastOr_mod {n : Nat} (L : List Nat) (h : ∀ j (hj : j < L.length), L[j] = j % n) :
    (lastOr L + 1) % (n : Int) = ((L.length % n : Nat) : Int) := by
  cases hL : L.getLast? with
  | none =>
    have : L = [] := List.getLast?_eq_none_iff.mp hL
    subst this
    simp [lastOr]
  | some k =>
    obtain ⟨ys, rfl⟩ := List.getLast?_eq_some_iff.mp hL
    have hk := h ys.length (by simp)
    simp only [List.getElem_append_right (Nat.le_refl _), Nat.sub_self, List.getElem_cons_zero] at hk
    simp only [lastOr_snoc, List.length_append, List.length_singleton]
    rw [hk, ← Nat.mod_add_mod]
    push_cast
    rfl

theorem SkipInv_step {n : Nat} {req : Nat → Int} (s : QState) (hi : SkipInv n req (view s)) :
    nextTrial s = .ok none ∨ ∃ s1, nextTrial s = .ok (some s1) ∧ SkipInv n req (view s1) := by
  have hn := hi.base.npos
  have hkind : s.kind = .interleaved := hi.kind
  cases hc : s.complete with
  | true => exact Or.inl (nextTrial_of_complete (Or.inl hkind) hc)
  | false =>
    right
    have hord : s.ordering = List.range n := hi.ord
    have hcur : s.cursor = lastOr (view s).keys := hi.cur
    have hlen : s.data.length = n := hi.base.len
    obtain ⟨d, hd1, hd2, hkey, hdp, hdz⟩ :=
      nextKey_interleaved_nokeep hn hkind hi.keep hord hc (hi.open_ hc)
    have hkc := idx_cast hn (s.cursor + (d : Int))
    have hkl := idx_lt hn (s.cursor + (d : Int))
    generalize ((s.cursor + (d : Int)) % (n : Int)).toNat = k at hkey hdp hkc hkl
    obtain ⟨s1, hs1, hv, hcompl⟩ :=
      complete_trial hi.base.len hi.base.delays (Or.inl hkind) hord hc hkey hkl
    have hkeys : (view s1).keys = (view s).keys ++ [k] := by rw [hv]
    have hdata : (view s1).data = dataStep s.data k := by rw [hv]
    obtain ⟨hopen, hclosed⟩ := open_closed_of_iff hcompl
    refine ⟨s1, hs1, Base_step hi.base hkl hdata hkeys, by rw [hv]; exact hkind,
      by rw [hv]; exact hi.keep, by rw [hv]; exact hord, ?_, ?_, hopen, hclosed, ?_⟩
    · have : (view s1).cursor = (s.cursor + (d : Int)) % (n : Int) := by rw [hv]
      rw [this, hkeys, lastOr_snoc, hkc]
    · rw [hdata]; exact nonneg_dataStep hlen hkl hdp hi.nonneg
    · rw [hkeys]
      refine snoc_each (P := fun _ pre x => NextUnsat n req (lastOr pre) pre x) hi.order
        ⟨d, hd1, hd2, by rw [← hcur]; exact hkc, (hi.base.unsat_iff hkl).mp hdp, ?_⟩
      intro t ht1 ht2
      rw [← hcur]
      have hz := hdz t ht1 ht2
      rw [show trv s.data _ = trv (view s).data _ from rfl,
        hi.base.led _ (idx_lt hn (s.cursor + (t : Int)))] at hz
      omega

end Psi.Queue

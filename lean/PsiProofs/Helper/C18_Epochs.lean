import PsiModel.Epochs
/-!
For `epochs_eq_runs`: which indices `risingIdx` / `fallingIdx` hold (a falling edge is a rising edge of the
complemented signal, so membership is proved for one polarity), how the two lists alternate (which kind of
edge comes first and which last), and what the fix-ups of `epochs` make of two alternating lists.
-/
namespace Psi.Epochs

def final : Bool → List Bool → Bool
  | prev, [] => prev
  | _, b :: xs => final b xs

theorem fallingIdx_eq_risingIdx_not : ∀ (xs : List Bool) (pos : Nat) (prev : Bool),
    fallingIdx pos prev xs = risingIdx pos (!prev) (xs.map (!·)) := by
  intro xs
  induction xs with
  | nil => intro _ _; rfl
  | cons b xs ih =>
    intro pos prev
    simp only [fallingIdx, risingIdx, List.map_cons, ih, Bool.not_not]

theorem tsFalling_eq_tsRising_not (x : List Bool) : tsFalling x = tsRising (x.map (!·)) := by
  cases x with
  | nil => rfl
  | cons b xs => exact fallingIdx_eq_risingIdx_not xs 1 b

theorem getElem?_map_not (x : List Bool) (i : Nat) (v : Bool) :
    (x.map (!·))[i]? = some v ↔ x[i]? = some (!v) := by
  rw [List.getElem?_map]
  cases x[i]? with
  | none => simp
  | some b => cases b <;> cases v <;> simp

theorem mem_risingIdx : ∀ (xs : List Bool) (pos : Nat) (prev : Bool) (s : Nat),
    s ∈ risingIdx pos prev xs ↔
      ∃ k, s = pos + k ∧ (prev :: xs)[k]? = some false ∧ xs[k]? = some true := by
  intro xs
  induction xs with
  | nil => intro pos prev s; simp [risingIdx]
  | cons b xs ih =>
    intro pos prev s
    rw [risingIdx, List.mem_append, ih]
    constructor
    · rintro (h | ⟨k, rfl, h1, h2⟩)
      · by_cases hc : (b && !prev) = true
        · rw [if_pos hc, List.mem_singleton] at h
          rw [Bool.and_eq_true, Bool.not_eq_true'] at hc
          exact ⟨0, h, congrArg some hc.2, congrArg some hc.1⟩
        · rw [if_neg hc] at h; cases h
      · exact ⟨k + 1, by omega, h1, h2⟩
    · rintro ⟨k, rfl, h1, h2⟩
      cases k with
      | zero =>
        left
        cases Option.some.inj h1; cases Option.some.inj h2
        exact List.mem_singleton.mpr rfl
      | succ k => exact Or.inr ⟨k, by omega, h1, h2⟩

theorem risingIdx_bounds (xs : List Bool) (pos : Nat) (prev : Bool) :
    ∀ r ∈ risingIdx pos prev xs, pos ≤ r ∧ r < pos + xs.length := by
  intro r h
  obtain ⟨k, rfl, -, h2⟩ := (mem_risingIdx xs pos prev r).mp h
  have := (List.getElem?_eq_some_iff.mp h2).1
  omega

theorem fallingIdx_bounds (xs : List Bool) (pos : Nat) (prev : Bool) :
    ∀ r ∈ fallingIdx pos prev xs, pos ≤ r ∧ r < pos + xs.length := by
  rw [fallingIdx_eq_risingIdx_not]
  simpa using risingIdx_bounds (xs.map (!·)) pos (!prev)

/-- index 0 is never an edge -/
theorem mem_tsRising (x : List Bool) (s : Nat) :
    s ∈ tsRising x ↔ 1 ≤ s ∧ x[s]? = some true ∧ x[s - 1]? = some false := by
  cases x with
  | nil => simp [tsRising]
  | cons b xs =>
    rw [tsRising, mem_risingIdx]
    constructor
    · rintro ⟨k, rfl, h1, h2⟩
      rw [Nat.add_sub_cancel_left, Nat.add_comm]
      exact ⟨Nat.le_add_left 1 k, h2, h1⟩
    · rintro ⟨h1, h2, h3⟩
      obtain ⟨k, rfl⟩ : ∃ k, s = 1 + k := ⟨s - 1, by omega⟩
      rw [Nat.add_sub_cancel_left] at h3
      rw [Nat.add_comm] at h2
      exact ⟨k, rfl, h3, h2⟩

theorem mem_tsFalling (x : List Bool) (s : Nat) :
    s ∈ tsFalling x ↔ 1 ≤ s ∧ x[s]? = some false ∧ x[s - 1]? = some true := by
  rw [tsFalling_eq_tsRising_not, mem_tsRising, getElem?_map_not, getElem?_map_not]
  rfl

theorem length_rel : ∀ (xs : List Bool) (pos : Nat) (prev : Bool),
    (risingIdx pos prev xs).length + prev.toNat
      = (fallingIdx pos prev xs).length + (final prev xs).toNat := by
  intro xs
  induction xs with
  | nil => intro pos prev; simp [risingIdx, fallingIdx, final]
  | cons b xs ih =>
    intro pos prev
    have := ih (pos + 1) b
    cases b <;> cases prev <;> simp [risingIdx, fallingIdx, final] at this ⊢ <;> omega

theorem head_cmp : ∀ (xs : List Bool) (pos : Nat) (prev : Bool) (r f : Nat),
    (risingIdx pos prev xs).head? = some r → (fallingIdx pos prev xs).head? = some f →
    (f < r ↔ prev = true) := by
  intro xs
  induction xs with
  | nil => intro pos prev r f h; simp [risingIdx] at h
  | cons b xs ih =>
    intro pos prev r f hr hf
    have hbr := risingIdx_bounds xs (pos + 1) b
    have hbf := fallingIdx_bounds xs (pos + 1) b
    -- an edge at `pos` comes before every edge of the tail; without one the tail decides
    cases b <;> cases prev <;> simp [risingIdx, fallingIdx] at hr hf
    · exact ih _ _ r f hr hf
    · have := hbr r (List.mem_of_mem_head? hr); simp; omega
    · have := hbf f (List.mem_of_mem_head? hf); simp; omega
    · exact ih _ _ r f hr hf

theorem last_cmp : ∀ (xs : List Bool) (pos : Nat) (prev : Bool) (r f : Nat),
    (risingIdx pos prev xs).getLast? = some r → (fallingIdx pos prev xs).getLast? = some f →
    (f < r ↔ final prev xs = true) := by
  intro xs
  induction xs with
  | nil => intro pos prev r f h; simp [risingIdx] at h
  | cons b xs ih =>
    intro pos prev r f hr hf
    rw [risingIdx, List.getLast?_append] at hr
    rw [fallingIdx, List.getLast?_append] at hf
    have hl := length_rel xs (pos + 1) b
    have hbr := risingIdx_bounds xs (pos + 1) b
    have hbf := fallingIdx_bounds xs (pos + 1) b
    show f < r ↔ final b xs = true
    cases hR : (risingIdx (pos + 1) b xs).getLast? with
    | some r' =>
      cases hF : (fallingIdx (pos + 1) b xs).getLast? with
      | some f' =>
        rw [hR, Option.some_or, Option.some.injEq] at hr
        rw [hF, Option.some_or, Option.some.injEq] at hf
        rw [← hr, ← hf]
        exact ih _ _ r' f' hR hF
      | none =>
        -- the only falling edge is at `pos`, a rising edge follows: the stream ends high
        rw [hR, Option.some_or, Option.some.injEq] at hr
        rw [hF, Option.none_or] at hf
        rw [List.getLast?_eq_none_iff.mp hF] at hl
        have := hbr r' (List.mem_of_getLast? hR)
        cases b <;> cases prev <;> simp at hf
        cases hfin : final false xs
        · rw [hfin] at hl; simp at hl; rw [hl] at hR; cases hR
        · simp; omega
    | none =>
      -- the only rising edge is at `pos`, a falling edge follows: the stream ends low
      rw [hR, Option.none_or] at hr
      rw [List.getLast?_eq_none_iff.mp hR] at hl
      cases b <;> cases prev <;> simp at hr hf
      have := hbf f (List.mem_of_getLast? hf)
      cases hfin : final true xs
      · simp; omega
      · rw [hfin] at hl; simp at hl; rw [hl] at hf; cases hf

def closeTail (fin : Bool) (n : Nat) : List Nat := if fin then [n] else []

/-- the scan pairs the start of the open run and the rising edges to come with the falling edges to come and, if the
stream ends high, its end -/
theorem runsAux_eq_zip : ∀ (xs : List Bool) (pos : Nat) (cur : Option Nat),
    runsAux pos cur xs = (cur.toList ++ risingIdx pos cur.isSome xs).zip
      (fallingIdx pos cur.isSome xs ++ closeTail (final cur.isSome xs) (pos + xs.length)) := by
  intro xs
  induction xs with
  | nil => intro pos cur; cases cur <;> simp [runsAux, risingIdx, fallingIdx, final, closeTail]
  | cons b xs ih =>
    intro pos cur
    rw [List.length_cons, ← Nat.add_assoc, Nat.add_right_comm]
    cases b <;> cases cur <;> simp [runsAux, risingIdx, fallingIdx, final, ih]

/-- what the fix-ups of `epochs` make of two edge lists that alternate: `b` is the first sample (the
first edge is a falling one iff it is high), `fin` the last (the last edge is a rising one iff it is high) -/
theorem epochs_of_alternating (x : List Bool) (b fin : Bool) (rs fs : List Nat)
    (hx : x.head? = some b) (hr : tsRising x = rs) (hf : tsFalling x = fs)
    (hL : rs.length + b.toNat = fs.length + fin.toNat)
    (hBr : ∀ r ∈ rs, 1 ≤ r ∧ r < x.length) (hBf : ∀ f ∈ fs, 1 ≤ f ∧ f < x.length)
    (hH : ∀ r f, rs.head? = some r → fs.head? = some f → (f < r ↔ b = true))
    (hT : ∀ r f, rs.getLast? = some r → fs.getLast? = some f → (f < r ↔ fin = true)) :
    epochs x = .ok ((if b then 0 :: rs else rs).zip (fs ++ closeTail fin x.length)) := by
  rcases rs with _ | ⟨r, rs'⟩ <;> rcases fs with _ | ⟨f, fs'⟩
  · -- no edge at all
    cases b <;> cases fin <;> simp [epochs, hx, hr, hf, closeTail] at hL ⊢
  · -- only falling edges
    have h1 := hBf f (by simp)
    have h2 : ¬ f < 0 := by omega
    cases b <;> cases fin <;> simp at hL
    · subst hL
      simp [epochs, hr, hf, closeTail]
  · -- only rising edges
    have h1 := hBr r (by simp)
    have h2 : ¬ x.length < r := by omega
    cases b <;> cases fin <;> simp at hL
    · subst hL
      simp [epochs, hr, hf, closeTail, h2]
  · -- both kinds
    have hne : (r :: rs').getLast? = some ((r :: rs').getLast (by simp)) := List.getLast?_eq_some_getLast _
    have hnf : (f :: fs').getLast? = some ((f :: fs').getLast (by simp)) := List.getLast?_eq_some_getLast _
    generalize (r :: rs').getLast (by simp) = sl at hne
    generalize (f :: fs').getLast (by simp) = el at hnf
    have hlast0 : (0 :: r :: rs').getLast? = some sl := by
      rw [List.getLast?_cons_cons]; exact hne
    have hfr := hH r f rfl rfl
    have hel := hT sl el hne hnf
    cases b <;> cases fin <;> simp at hfr hel hL <;>
      simp [epochs, hr, hf, hfr, hel, hne, hnf, hlast0, closeTail, Nat.not_lt.mpr] <;> omega

end Psi.Epochs

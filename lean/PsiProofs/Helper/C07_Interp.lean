import PsiProofs.Helper.C07_Lemmas
/-! Piecewise-linear interpolation over a frequency-sorted table (model of `interp1d`), over ℝ. -/
namespace Psi.Db

def SortedTbl (t : List (ℝ × ℝ)) : Prop := t.Pairwise (fun a b => a.1 < b.1)

/-- `searchsorted` moves on while the upper knot of the segment is below `x`. -/
theorem interpSeg_of_lt (a b : ℝ × ℝ) {t : List (ℝ × ℝ)} (ht : t ≠ []) {x : ℝ} (h : b.1 < x) :
    interpSeg (a :: b :: t) x = interpSeg (b :: t) x := by
  cases t with
  | nil => exact absurd rfl ht
  | cons c r => exact if_pos (decide_eq_true h)

/-- … and stops at the first segment whose upper knot is not below `x`, or at the last one (the clip). -/
theorem interpSeg_of_le (a b : ℝ × ℝ) (t : List (ℝ × ℝ)) {x : ℝ} (h : x ≤ b.1) :
    interpSeg (a :: b :: t) x = .val (seg a.1 a.2 b.1 b.2 x) := by
  cases t with
  | nil => rfl
  | cons c r => exact if_neg (by rw [ltb_real, decide_eq_true_eq]; exact not_lt.mpr h)

theorem seg_eq_linear {x0 y0 x1 y1 x : ℝ} (h : x0 < x1) :
    seg x0 y0 x1 y1 x = y0 + (y1 - y0) * (x - x0) / (x1 - x0) := by
  have : x1 - x0 ≠ 0 := sub_ne_zero.mpr h.ne'
  unfold seg; field_simp; ring

theorem seg_at_hi {x0 y0 x1 y1 : ℝ} (h : x0 < x1) : seg x0 y0 x1 y1 x1 = y1 := by
  rw [seg_eq_linear h, mul_div_cancel_right₀ _ (sub_ne_zero.mpr h.ne'), add_sub_cancel]

theorem seg_at_lo {x0 y0 x1 y1 : ℝ} (h : x0 < x1) : seg x0 y0 x1 y1 x0 = y0 := by
  rw [seg_eq_linear h, sub_self, mul_zero, zero_div, add_zero]

theorem interpSeg_skip (pre post : List (ℝ × ℝ)) (a b : ℝ × ℝ) (x : ℝ) (hpre : ∀ q ∈ pre, q.1 < x)
    (hlo : a.1 < x) (hhi : x ≤ b.1) :
    interpSeg (pre ++ a :: b :: post) x = .val (seg a.1 a.2 b.1 b.2 x) := by
  induction pre with
  | nil => exact interpSeg_of_le a b post hhi
  | cons p pre ih =>
    have ih := ih fun q hq => hpre q (List.mem_cons_of_mem _ hq)
    cases pre with
    | nil => exact (interpSeg_of_lt p a (List.cons_ne_nil _ _) hlo).trans ih
    | cons q pre' =>
      exact (interpSeg_of_lt p q (List.append_ne_nil_of_right_ne_nil _ (List.cons_ne_nil _ _))
        (hpre q (List.mem_cons_of_mem _ List.mem_cons_self))).trans ih

theorem interpSeg_pick (pre post : List (ℝ × ℝ)) (x0 y0 x1 y1 x : ℝ)
    (hs : SortedTbl (pre ++ (x0, y0) :: (x1, y1) :: post)) (hlo : x0 < x) (hhi : x ≤ x1) :
    interpSeg (pre ++ (x0, y0) :: (x1, y1) :: post) x = .val (seg x0 y0 x1 y1 x) :=
  interpSeg_skip pre post (x0, y0) (x1, y1) x
    (fun q hq => lt_trans ((List.pairwise_append.mp hs).2.2 q hq (x0, y0) List.mem_cons_self) hlo) hlo hhi

theorem lastX_ge (t : List (ℝ × ℝ)) (hs : SortedTbl t) (a : ℝ × ℝ) (ha : a ∈ t) :
    ∃ xn, lastX t = some xn ∧ a.1 ≤ xn := by
  induction t generalizing a with
  | nil => cases ha
  | cons c t ih =>
    cases t with
    | nil =>
      obtain rfl := List.mem_singleton.mp ha
      exact ⟨a.1, rfl, le_rfl⟩
    | cons d t' =>
      have hs' : SortedTbl (d :: t') := (List.pairwise_cons.mp hs).2
      show ∃ xn, lastX (d :: t') = some xn ∧ a.1 ≤ xn
      rcases List.mem_cons.mp ha with rfl | h
      · obtain ⟨xn, h1, h2⟩ := ih hs' d List.mem_cons_self
        exact ⟨xn, h1, le_trans ((List.pairwise_cons.mp hs).1 d List.mem_cons_self).le h2⟩
      · exact ih hs' a h

theorem head_le (h : ℝ × ℝ) (t : List (ℝ × ℝ)) (hs : SortedTbl (h :: t)) (a : ℝ × ℝ) (ha : a ∈ h :: t) :
    h.1 ≤ a.1 := by
  rcases List.mem_cons.mp ha with e | e
  · subst e; exact le_refl _
  · exact ((List.pairwise_cons.mp hs).1 a e).le

/-- inside the table's range the bounds check passes -/
theorem interp_inside (t : List (ℝ × ℝ)) (hs : SortedTbl t) (a b : ℝ × ℝ) (ha : a ∈ t) (hb : b ∈ t)
    (x : ℝ) (hax : a.1 ≤ x) (hxb : x ≤ b.1) : interp t x = interpSeg t x := by
  cases t with
  | nil => simp at ha
  | cons h t' =>
    obtain ⟨xn, hl, hbn⟩ := lastX_ge (h :: t') hs b hb
    have hh := head_le h t' hs a ha
    obtain ⟨h1, h2⟩ := h
    simp only [interp, hl]
    have n1 : ¬ x < h1 := not_lt.mpr (le_trans hh hax)
    have n2 : ¬ xn < x := not_lt.mpr (le_trans hxb hbn)
    simp [n1, n2]

theorem lookup_absent (t : List (ℝ × ℝ)) (f : ℝ) (h : ∀ r ∈ t, r.1 ≠ f) : lookup t f = .calErr := by
  induction t with
  | nil => rfl
  | cons r t ih =>
    obtain ⟨x, y⟩ := r
    have hx : x ≠ f := h (x, y) (by simp)
    simp only [lookup, eqb_real, hx, decide_false, Bool.false_eq_true, if_false]
    exact ih (fun r hr => h r (by simp [hr]))

theorem lookup_present (t : List (ℝ × ℝ)) (f y : ℝ) (hd : (t.map (·.1)).Nodup) (hm : (f, y) ∈ t) :
    lookup t f = .val y := by
  induction t with
  | nil => simp at hm
  | cons r t ih =>
    obtain ⟨x, y'⟩ := r
    simp only [List.map_cons, List.nodup_cons] at hd
    rcases List.mem_cons.mp hm with e | e
    · injection e with e1 e2; subst e1; subst e2; simp [lookup]
    · have hx : x ≠ f := by
        intro hxf; subst hxf
        exact hd.1 (List.mem_map.mpr ⟨(x, y), e, rfl⟩)
      simp only [lookup, eqb_real, hx, decide_false, Bool.false_eq_true, if_false]
      exact ih hd.2 e

end Psi.Db

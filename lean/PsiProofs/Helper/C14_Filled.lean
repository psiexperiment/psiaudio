import PsiProofs.Helper.C14_Refine
/-!
The specification of a filled read, cell by cell.  `Spec.filled a b` is evaluated in three
regimes: the request lies wholly below the window or wholly above it (pure padding), or it touches
the hull `[lo, hi]`, where the left pad depends on `a` alone and the right pad on `b` alone.
-/
namespace Psi.Buffer

variable {α : Type}

theorem Spec.slice_add_length (sp : Spec α) {x d : Nat} (h : x + d ≤ sp.hi) :
    (sp.slice x (x + d)).length = d := by
  rw [sp.slice_add, List.length_take, List.length_drop]
  exact Nat.min_eq_left (Nat.le_sub_of_add_le' h)

theorem Spec.slice_add_getElem? (sp : Spec α) (x : Nat) {d k : Nat} (hk : k < d) :
    (sp.slice x (x + d))[k]? = sp.stream[x + k]? := by
  rw [sp.slice_add, List.getElem?_take, if_pos hk, List.getElem?_drop]

/-- `(lo - a)⁺` pad cells lead from `a` to `max lo a`; if there are any the slice starts at `lo`. -/
theorem pad_below (lo : Nat) (a : Int) :
    ((max (lo : Int) a).toNat : Int) = a + ((lo : Int) - a).toNat
      ∧ (((lo : Int) - a).toNat = 0 ∨ (max (lo : Int) a).toNat = lo)
      ∧ lo ≤ (max (lo : Int) a).toNat := by
  rcases Int.le_total a lo with h | h
  · rw [Int.max_eq_left h, Int.toNat_natCast, Int.toNat_of_nonneg (Int.sub_nonneg_of_le h)]
    exact ⟨by omega, Or.inr rfl, Nat.le_refl _⟩
  · have h0 : 0 ≤ a := Int.le_trans (Int.natCast_nonneg lo) h
    rw [Int.max_eq_right h, Int.toNat_eq_zero.2 (Int.sub_nonpos_of_le h), Int.toNat_of_nonneg h0]
    exact ⟨(Int.add_zero a).symm, Or.inl rfl, Int.le_toNat h0 |>.2 h⟩

/-- `(b - hi)⁺` pad cells lead from `min hi b` to `b`; if there are any the slice ends at `hi`. -/
theorem pad_above (hi : Nat) (b : Int) (hb : 0 ≤ b) :
    ((min (hi : Int) b).toNat : Int) + (b - hi).toNat = b
      ∧ ((b - hi).toNat = 0 ∨ (min (hi : Int) b).toNat = hi) ∧ (min (hi : Int) b).toNat ≤ hi := by
  rcases Int.le_total b hi with h | h
  · rw [Int.min_eq_right h, Int.toNat_eq_zero.2 (Int.sub_nonpos_of_le h), Int.toNat_of_nonneg hb]
    exact ⟨Int.add_zero b, Or.inl rfl, Int.toNat_le.2 h⟩
  · rw [Int.min_eq_left h, Int.toNat_natCast, Int.toNat_of_nonneg (Int.sub_nonneg_of_le h)]
    exact ⟨by omega, Or.inr rfl, Nat.le_refl _⟩

/-- `p` pad cells lead from `a` to sample `x`, the `d` samples from `x` on lie inside the window,
`q` pad cells lead from there to `b`; a pad that is not empty ends (begins) at the window's bound. -/
structure Spec.Pads (sp : Spec α) (a b : Int) (p x d q : Nat) : Prop where
  hx : (x : Int) = a + p
  hp : p = 0 ∨ x = sp.lo
  lo_le : sp.lo ≤ x
  hy : ((x + d : Nat) : Int) + q = b
  hq : q = 0 ∨ x + d = sp.hi
  le_hi : x + d ≤ sp.hi

section
variable (sp : Spec α) (hlo : sp.lo ≤ sp.hi) {a b : Int} (fill : α)
include hlo

theorem Spec.filled_of_le_lo (hab : a ≤ b) (hb : b ≤ sp.lo) :
    sp.filled a b fill = List.replicate (b - a).toNat fill := by
  have hbh : b ≤ sp.hi := Int.le_trans hb (Int.ofNat_le.2 hlo)
  unfold Spec.filled Spec.clip
  rw [Int.min_eq_right hb, Int.max_eq_left hb, Int.max_eq_left (Int.le_trans hab hb),
    sp.slice_of_le (Nat.le_refl _), Int.max_eq_left (Int.le_trans hab hbh),
    Int.toNat_eq_zero.2 (Int.sub_nonpos_of_le hbh), List.replicate_zero, List.append_nil,
    List.append_nil]

theorem Spec.filled_of_hi_le (hab : a ≤ b) (ha : (sp.hi : Int) ≤ a) :
    sp.filled a b fill = List.replicate (b - a).toNat fill := by
  have hla : (sp.lo : Int) ≤ a := Int.le_trans (Int.ofNat_le.2 hlo) ha
  unfold Spec.filled Spec.clip
  rw [Int.min_eq_left (Int.le_trans hla hab), Int.toNat_eq_zero.2 (Int.sub_nonpos_of_le hla),
    Int.max_eq_right hla, Int.min_eq_right ha, Int.max_eq_right (Int.le_trans hla hab),
    Int.min_eq_right (Int.le_trans ha hab), sp.slice_of_le (Nat.le_refl _),
    Int.max_eq_right ha, List.replicate_zero, List.nil_append, List.nil_append]

theorem Spec.filled_hull (h1 : (sp.lo : Int) ≤ b) (h2 : a ≤ sp.hi) :
    sp.filled a b fill = List.replicate ((sp.lo : Int) - a).toNat fill
      ++ sp.slice (max (sp.lo : Int) a).toNat (min (sp.hi : Int) b).toNat
      ++ List.replicate (b - sp.hi).toNat fill := by
  unfold Spec.filled Spec.clip
  rw [Int.min_eq_left h1, Int.max_eq_left h2,
    Int.min_eq_left (Int.max_le.2 ⟨Int.ofNat_le.2 hlo, h2⟩), Int.max_eq_right h1, Int.min_comm b]

theorem Spec.filled_pads (hab : a ≤ b) (h1 : (sp.lo : Int) ≤ b) (h2 : a ≤ sp.hi) :
    ∃ p x d q, sp.filled a b fill
        = List.replicate p fill ++ sp.slice x (x + d) ++ List.replicate q fill
      ∧ sp.Pads a b p x d q := by
  obtain ⟨hx, hp, hxlo⟩ := pad_below sp.lo a
  obtain ⟨hy, hq, hyhi⟩ := pad_above sp.hi b (Int.le_trans (Int.natCast_nonneg _) h1)
  obtain ⟨d, hd⟩ := Nat.le.dest (Int.toNat_le_toNat
    (Int.max_le.2 ⟨Int.le_min.2 ⟨Int.ofNat_le.2 hlo, h1⟩, Int.le_min.2 ⟨h2, hab⟩⟩))
  rw [← hd] at hy hq hyhi
  refine ⟨_, _, d, _, ?_, hx, hp, hxlo, hy, hq, hyhi⟩
  rw [hd]
  exact sp.filled_hull hlo fill h1 h2

theorem Spec.filled_cases (hab : a ≤ b) :
    (sp.filled a b fill = List.replicate (b - a).toNat fill ∧ (b ≤ sp.lo ∨ (sp.hi : Int) ≤ a))
      ∨ ∃ p x d q, sp.filled a b fill
            = List.replicate p fill ++ sp.slice x (x + d) ++ List.replicate q fill
          ∧ sp.Pads a b p x d q := by
  rcases Int.le_total b sp.lo with hb | hb
  · exact .inl ⟨sp.filled_of_le_lo hlo fill hab hb, .inl hb⟩
  rcases Int.le_total (sp.hi : Int) a with ha | ha
  · exact .inl ⟨sp.filled_of_hi_le hlo fill hab ha, .inr ha⟩
  exact .inr (sp.filled_pads hlo fill hab hb ha)

end

section
variable {sp : Spec α} {a b : Int} {p x d q : Nat} (h : sp.Pads a b p x d q) (fill : α)
include h

theorem Spec.Pads.getElem? (j : Nat) (hj : a + j < b) :
    (List.replicate p fill ++ sp.slice x (x + d) ++ List.replicate q fill)[j]? =
      if (sp.lo : Int) ≤ a + j ∧ a + j < sp.hi then sp.stream[(a + j).toNat]? else some fill := by
  obtain ⟨hx, hp, hxlo, hy, hq, hyhi⟩ := h
  have hsl := sp.slice_add_length hyhi
  rcases Nat.lt_or_ge j p with hjp | hjp
  · -- a cell of the left pad: there is one, so the slice starts at `lo`
    have hxlo : x = sp.lo := hp.resolve_left (Nat.ne_of_gt (Nat.zero_lt_of_lt hjp))
    rw [if_neg (fun h => Nat.not_le.2 hjp (Int.ofNat_le.1
        (Int.le_of_add_le_add_left (hx ▸ hxlo ▸ h.1)))), List.append_assoc,
      List.getElem?_append_left (List.length_replicate ▸ hjp), List.getElem?_replicate, if_pos hjp]
  obtain ⟨k, rfl⟩ := Nat.le.dest hjp
  have hxk : a + ((p + k : Nat) : Int) = ((x + k : Nat) : Int) := by
    rw [Int.natCast_add, Int.natCast_add, hx, Int.add_assoc]
  rw [List.append_assoc, List.getElem?_append_right (List.length_replicate ▸ hjp),
    List.length_replicate, Nat.add_sub_cancel_left, hxk, Int.toNat_natCast]
  rcases Nat.lt_or_ge k d with hk | hk
  · rw [if_pos ⟨Int.ofNat_le.2 (Nat.le_trans hxlo (Nat.le_add_right x k)),
        Int.ofNat_lt.2 (Nat.lt_of_lt_of_le (Nat.add_lt_add_left hk x) hyhi)⟩,
      List.getElem?_append_left (hsl.symm ▸ hk), sp.slice_add_getElem? x hk]
  · -- a cell `u` of the right pad: there is one, so the slice ends at `hi`
    obtain ⟨u, rfl⟩ := Nat.le.dest hk
    have hu : u < q := by omega
    have hyhi : x + d = sp.hi := hq.resolve_left (Nat.ne_of_gt (Nat.zero_lt_of_lt hu))
    rw [if_neg (fun h => Nat.not_le.2 (Int.ofNat_lt.1 h.2)
        (hyhi ▸ (Nat.add_assoc x d u).symm ▸ Nat.le_add_right _ _)),
      List.getElem?_append_right (hsl.symm ▸ hk), hsl, Nat.add_sub_cancel_left,
      List.getElem?_replicate, if_pos hu]

theorem Spec.Pads.length :
    (List.replicate p fill ++ sp.slice x (x + d) ++ List.replicate q fill).length
      = (b - a).toNat := by
  obtain ⟨hx, -, -, hy, -, hyhi⟩ := h
  rw [List.length_append, List.length_append, List.length_replicate, List.length_replicate,
    sp.slice_add_length hyhi, show b - a = ((p + d + q : Nat) : Int) by omega, Int.toNat_natCast]

end

theorem Spec.filled_getElem? (sp : Spec α) (hlo : sp.lo ≤ sp.hi) (a b : Int) (fill : α) (j : Nat)
    (hj : a + j < b) :
    (sp.filled a b fill)[j]? =
      if (sp.lo : Int) ≤ a + j ∧ a + j < sp.hi then sp.stream[(a + j).toNat]? else some fill := by
  rcases sp.filled_cases hlo fill (show a ≤ b by omega) with ⟨e, h⟩ | ⟨p, x, d, q, e, h⟩
  · rw [e, List.getElem?_replicate, if_pos (by omega), if_neg (fun c => by omega)]
  · rw [e]; exact h.getElem? fill j hj

theorem Spec.filled_length (sp : Spec α) (hlo : sp.lo ≤ sp.stream.length) (a b : Int) (fill : α)
    (hab : a ≤ b) : (sp.filled a b fill).length = (b - a).toNat := by
  rcases sp.filled_cases hlo fill hab with ⟨e, -⟩ | ⟨p, x, d, q, e, h⟩
  · rw [e, List.length_replicate]
  · rw [e]; exact h.length fill

end Psi.Buffer

import PsiProofs.Helper.C10_Heap
/-! The invariant of the copy-on-return memo wrapper: every memo entry still holds the value of
its key, and no address held by the caller occurs in a memo entry. -/
namespace Psi.Cache

set_option linter.unusedSectionVars false
variable {κ ω α : Type} [DecidableEq κ] [DecidableEq ω]

structure Inv (sg : Sig κ ω α) (s : State κ ω α) : Prop where
  cached : ∀ k as, (k, as) ∈ s.cache → readAll s.heap as = some (sg.value k)
  priv : ∀ k as, (k, as) ∈ s.cache → ∀ h ∈ s.handles, ∀ a ∈ h, a ∉ as
  valid : ∀ h ∈ s.handles, ∀ a ∈ h, a < s.heap.length

theorem Inv.init (sg : Sig κ ω α) : Inv sg (State.init : State κ ω α) :=
  ⟨fun _ _ h => (nomatch h), fun _ _ h => (nomatch h), fun _ h => (nomatch h)⟩

structure Ext (s s' : State κ ω α) : Prop where
  heap : ∃ x, s'.heap = s.heap ++ x
  handles : s'.handles = s.handles

theorem Ext.refl (s : State κ ω α) : Ext s s := ⟨⟨[], by simp⟩, rfl⟩

theorem Ext.trans {s s' s'' : State κ ω α} (a : Ext s s') (b : Ext s' s'') : Ext s s'' := by
  obtain ⟨⟨x, hx⟩, h1⟩ := a
  obtain ⟨⟨y, hy⟩, h2⟩ := b
  exact ⟨⟨x ++ y, by rw [hy, hx, List.append_assoc]⟩, h2.trans h1⟩

theorem Ext.len {s s' : State κ ω α} (e : Ext s s') : s.heap.length ≤ s'.heap.length := by
  obtain ⟨⟨x, hx⟩, _⟩ := e
  rw [hx, List.length_append]; omega

theorem Inv.alloc {sg : Sig κ ω α} {s : State κ ω α} (hi : Inv sg s) (vs : List (List α)) :
    Inv sg (allocAll s vs).1 := by
  refine ⟨?_, hi.priv, ?_⟩
  · intro k as h
    exact readAll_append vs (hi.cached k as h)
  · intro h hh a ha
    have := hi.valid h hh a ha
    show a < (s.heap ++ vs).length
    rw [List.length_append]; omega

theorem Inv.store {sg : Sig κ ω α} {s : State κ ω α} (hi : Inv sg s) (key : Key κ ω) (as : List Nat)
    (hr : readAll s.heap as = some (sg.value key)) (L : Nat)
    (hL : ∀ h ∈ s.handles, ∀ a ∈ h, a < L) (hf : ∀ a ∈ as, L ≤ a) :
    Inv sg { s with cache := (key, as) :: s.cache } := by
  refine ⟨?_, ?_, hi.valid⟩
  · intro k bs h
    rcases List.mem_cons.mp h with e | h
    · cases e; exact hr
    · exact hi.cached k bs h
  · intro k bs h hd hhd a ha
    rcases List.mem_cons.mp h with e | h
    · cases e
      exact fun hmem => Nat.lt_irrefl a (Nat.lt_of_lt_of_le (hL hd hhd a ha) (hf a hmem))
    · exact hi.priv k bs h hd hhd a ha

theorem ensureLeaf_spec {sg : Sig κ ω α} {s : State κ ω α} (hi : Inv sg s) (k : κ) :
    Inv sg (ensureLeaf sg s k).1 ∧ Ext s (ensureLeaf sg s k).1 ∧
      (Key.leaf k, (ensureLeaf sg s k).2) ∈ (ensureLeaf sg s k).1.cache := by
  unfold ensureLeaf
  split
  · rename_i as h
    exact ⟨hi, Ext.refl s, lookup_mem h⟩
  · exact ⟨Inv.store (hi.alloc _) (Key.leaf k) _ (readAll_fresh s.heap (sg.compute k)) s.heap.length
      hi.valid fun a ha => (List.mem_range'_1.mp ha).1, ⟨⟨sg.compute k, rfl⟩, rfl⟩, List.mem_cons_self⟩

structure CopySpec (sg : Sig κ ω α) (key : Key κ ω) (s : State κ ω α) (r : State κ ω α × List Nat) : Prop where
  inv : Inv sg r.1
  ext : Ext s r.1
  cache : r.1.cache = s.cache
  read : readAll r.1.heap r.2 = some (sg.value key)
  fresh : ∀ b ∈ r.2, s.heap.length ≤ b
  valid : ∀ b ∈ r.2, b < r.1.heap.length

theorem copyOut_spec {sg : Sig κ ω α} {s : State κ ω α} (hi : Inv sg s) {key : Key κ ω} {as : List Nat}
    (hm : (key, as) ∈ s.cache) : CopySpec sg key s (copyOut s as) := by
  have hr := hi.cached key as hm
  unfold copyOut
  rw [hr]
  refine ⟨hi.alloc _, ⟨⟨sg.value key, rfl⟩, rfl⟩, rfl, readAll_fresh _ _, ?_, ?_⟩
  · intro b hb; exact (List.mem_range'_1.mp hb).1
  · intro b hb
    have := (List.mem_range'_1.mp hb).2
    show b < (s.heap ++ sg.value key).length
    rw [List.length_append]; omega

theorem CopySpec.disjoint {sg : Sig κ ω α} {key : Key κ ω} {s : State κ ω α} {r : State κ ω α × List Nat}
    (hi : Inv sg s) (c : CopySpec sg key s r) :
    ∀ k as, (k, as) ∈ r.1.cache → ∀ b ∈ r.2, b ∉ as := by
  intro k as h b hb hmem
  rw [c.cache] at h
  have h1 := readAll_lt (hi.cached k as h) b hmem
  have h2 := c.fresh b hb
  omega

structure CallSpec (sg : Sig κ ω α) (key : Key κ ω) (s : State κ ω α) (r : State κ ω α × List Nat) : Prop where
  inv : Inv sg r.1
  ext : Ext s r.1
  read : readAll r.1.heap r.2 = some (sg.value key)
  valid : ∀ b ∈ r.2, b < r.1.heap.length
  disjoint : ∀ k as, (k, as) ∈ r.1.cache → ∀ b ∈ r.2, b ∉ as
  fresh : ∀ b ∈ r.2, s.heap.length ≤ b

theorem CopySpec.toCall {sg : Sig κ ω α} {key : Key κ ω} {s0 s : State κ ω α} {r : State κ ω α × List Nat}
    (hi : Inv sg s) (e : Ext s0 s) (c : CopySpec sg key s r) : CallSpec sg key s0 r :=
  ⟨c.inv, e.trans c.ext, c.read, c.valid, c.disjoint hi, fun b hb => Nat.le_trans e.len (c.fresh b hb)⟩

theorem leafCall_copy_spec {sg : Sig κ ω α} {s : State κ ω α} (hi : Inv sg s) (k : κ) :
    CallSpec sg (Key.leaf k) s (leafCall .copy sg s k) := by
  obtain ⟨h1, h2, h3⟩ := ensureLeaf_spec hi k
  exact (copyOut_spec h1 h3).toCall h1 h2

theorem callRaw_copy_spec {sg : Sig κ ω α} {s : State κ ω α} (hi : Inv sg s) (key : Key κ ω) :
    CallSpec sg key s (callRaw .copy sg s key) := by
  cases key with
  | leaf k => exact leafCall_copy_spec hi k
  | wrap w =>
    simp only [callRaw]
    split
    · rename_i as h
      exact (copyOut_spec hi (lookup_mem h)).toCall hi (Ext.refl s)
    · have q := leafCall_copy_spec hi (sg.wraps w)
      have hst : Inv sg { (leafCall .copy sg s (sg.wraps w)).1 with
          cache := (Key.wrap w, (leafCall .copy sg s (sg.wraps w)).2) ::
            (leafCall .copy sg s (sg.wraps w)).1.cache } :=
        Inv.store q.inv (Key.wrap w) _ q.read s.heap.length (by rw [q.ext.handles]; exact hi.valid) q.fresh
      exact (copyOut_spec hst List.mem_cons_self).toCall hst ⟨q.ext.heap, q.ext.handles⟩

theorem Inv.push {sg : Sig κ ω α} {s : State κ ω α} (hi : Inv sg s) (bs : List Nat)
    (hv : ∀ b ∈ bs, b < s.heap.length) (hd : ∀ k as, (k, as) ∈ s.cache → ∀ b ∈ bs, b ∉ as) :
    Inv sg { s with handles := s.handles ++ [bs] } := by
  exact ⟨hi.cached,
    fun k as h => List.forall_mem_append.2 ⟨hi.priv k as h, List.forall_mem_singleton.2 (hd k as h)⟩,
    List.forall_mem_append.2 ⟨hi.valid, List.forall_mem_singleton.2 hv⟩⟩

theorem call_copy_inv {sg : Sig κ ω α} {s : State κ ω α} (hi : Inv sg s) (key : Key κ ω) :
    Inv sg (call .copy sg s key) := by
  have c := callRaw_copy_spec hi key
  exact c.inv.push _ c.valid c.disjoint

theorem call_copy_read {sg : Sig κ ω α} {s : State κ ω α} (hi : Inv sg s) (key : Key κ ω) :
    readHandle (call .copy sg s key) s.handles.length = some (sg.value key) := by
  have c := callRaw_copy_spec hi key
  unfold readHandle call
  simp only [c.ext.handles, List.getElem?_concat_length]
  exact c.read

theorem Inv.write {sg : Sig κ ω α} {s : State κ ω α} (hi : Inv sg s) {h : List Nat} (hh : h ∈ s.handles)
    {a : Nat} (ha : a ∈ h) (heap' : List (List α)) (hl : heap'.length = s.heap.length)
    (hr : ∀ as, a ∉ as → readAll heap' as = readAll s.heap as) :
    Inv sg { s with heap := heap' } := by
  refine ⟨?_, hi.priv, ?_⟩
  · intro k as hm
    show readAll heap' as = _
    rw [hr as (hi.priv k as hm h hh a ha)]
    exact hi.cached k as hm
  · intro h' hh' b hb
    show b < heap'.length
    rw [hl]; exact hi.valid h' hh' b hb

theorem mutate_ok {s s' : State κ ω α} {h c i : Nat} {x : α} (hm : mutate s h c i x = .ok s') :
    ∃ as a, s.handles[h]? = some as ∧ as[c]? = some a ∧ s' = { s with heap := setCell s.heap a i x } := by
  unfold mutate at hm
  repeat' split at hm
  all_goals first | cases hm; exact ⟨_, _, ‹_›, ‹_›, rfl⟩ | cases hm

theorem mutate_inv {sg : Sig κ ω α} {s s' : State κ ω α} (hi : Inv sg s) {h c i : Nat} {x : α}
    (hm : mutate s h c i x = .ok s') : Inv sg s' := by
  obtain ⟨as, a, has, hac, rfl⟩ := mutate_ok hm
  exact hi.write (List.mem_of_getElem? has) (List.mem_of_getElem? hac) _
    (setCell_length _ _ _ _) (fun as hn => readAll_setCell _ _ hn)

theorem scribble_inv {sg : Sig κ ω α} {s : State κ ω α} (hi : Inv sg s) (x : α) :
    Inv sg (scribble s x) := by
  unfold scribble
  -- generalise over the list of addresses being overwritten (all of them held by the caller)
  have key : ∀ (l : List Nat) (heap : List (List α)),
      (∀ a ∈ l, ∃ h ∈ s.handles, a ∈ h) → Inv sg { s with heap := heap } →
      Inv sg { s with heap := l.foldl (fun hp a => fillCell hp a x) heap } := by
    intro l
    induction l with
    | nil => intro heap _ h; exact h
    | cons a l ih =>
      intro heap hl h
      rw [List.foldl_cons]
      apply ih
      · intro b hb; exact hl b (List.mem_cons_of_mem _ hb)
      · obtain ⟨hd, hhd, had⟩ := hl a List.mem_cons_self
        exact Inv.write (s := { s with heap := heap }) h hhd had _ (fillCell_length _ _ _)
          (fun as hn => readAll_fillCell _ hn)
  apply key
  · intro a ha
    obtain ⟨h, hh, hah⟩ := List.mem_flatten.mp ha
    exact ⟨h, hh, hah⟩
  · exact hi

theorem step_copy_inv {sg : Sig κ ω α} {s : State κ ω α} (hi : Inv sg s) (op : Op κ ω α) :
    Inv sg (step .copy sg s op) := by
  cases op with
  | call k => exact call_copy_inv hi k
  | mutate h c i x =>
    simp only [step]
    split
    · rename_i s' hm; exact mutate_inv hi hm
    · exact hi
  | scribble x => exact scribble_inv hi x

theorem run_induction {P : State κ ω α → Prop} {v : Variant} {sg : Sig κ ω α}
    (hstep : ∀ s op, P s → P (step v sg s op)) (ops : List (Op κ ω α)) {s : State κ ω α} (h : P s) :
    P (run v sg ops s) := by
  induction ops generalizing s with
  | nil => exact h
  | cons op ops ih => exact ih (hstep s op h)

theorem run_copy_inv {sg : Sig κ ω α} (ops : List (Op κ ω α)) {s : State κ ω α} (hi : Inv sg s) :
    Inv sg (run .copy sg ops s) :=
  run_induction (P := Inv sg) (fun _ op h => step_copy_inv h op) ops hi

end Psi.Cache

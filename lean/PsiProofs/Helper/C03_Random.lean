import PsiProofs.Helper.C03_Policy
/-! FIFO and Random queues (a key leaves the ordering when its counter reaches 0): the ordering is
always the list of stimuli not yet satisfied; FIFO takes its head, Random the oracle's pick. -/
namespace Psi.Queue

/-- stimuli (in insertion order) presented fewer times than requested, given the trials `P` so far -/
def unsatList (n : Nat) (req : Nat → Int) (P : List Nat) : List Nat :=
  (List.range n).filter (fun k => decide (((P.count k : Nat) : Int) < req k))

theorem mem_unsatList {n : Nat} {req : Nat → Int} {P : List Nat} {k : Nat} :
    k ∈ unsatList n req P ↔ k < n ∧ ((P.count k : Nat) : Int) < req k := by
  simp [unsatList]

theorem unsatList_nodup (n : Nat) (req : Nat → Int) (P : List Nat) : (unsatList n req P).Nodup :=
  List.Nodup.sublist List.filter_sublist List.nodup_range

/-- logging one more trial of `k`: `k` leaves the list iff it is now satisfied (written as the test
`decrement_key` makes on the counter `requested − presented − 1`) -/
theorem unsatList_snoc (n : Nat) (req : Nat → Int) (P : List Nat) (k : Nat) :
    unsatList n req (P ++ [k]) =
      if req k - ((P.count k : Nat) : Int) - 1 ≤ 0 then (unsatList n req P).erase k else unsatList n req P := by
  split
  · rename_i h
    have h' : ¬ ((P.count k : Nat) : Int) + 1 < req k := by omega
    rw [(unsatList_nodup n req P).erase_eq_filter]
    unfold unsatList
    rw [List.filter_filter]
    apply List.filter_congr
    intro x _
    rw [List.count_append, List.count_singleton]
    by_cases hx : k = x
    · subst hx
      simp [h']
    · have : x ≠ k := fun h' => hx h'.symm
      simp [hx, this]
  · rename_i h
    have h' : ((P.count k : Nat) : Int) + 1 < req k := by omega
    unfold unsatList
    apply List.filter_congr
    intro x _
    rw [List.count_append, List.count_singleton]
    by_cases hx : k = x
    · subst hx
      have h1 : ((P.count k : Nat) : Int) < req k := by omega
      simp [h', h1]
    · simp [hx]

structure EraseCore (n : Nat) (req : Nat → Int) (v : PView) : Prop where
  base : Base n req v
  kind : v.kind = .fifo ∨ v.kind = .random
  ord : v.ordering = unsatList n req v.keys
  nonneg : ∀ k, k < n → 0 ≤ trv v.data k

theorem EraseCore_init {s : QState} (h : Loaded s) (hk : s.kind = .fifo ∨ s.kind = .random) :
    EraseCore s.data.length (fun k => trialsOf s k) (view s) := by
  refine ⟨Base_init h, hk, ?_, fun k hk' => Int.le_of_lt (h.trv_pos hk')⟩
  simp only [view, h.ordering, h.added, List.map_nil, unsatList, List.count_nil]
  symm
  rw [List.filter_eq_self]
  intro k hk'
  have := h.trials (List.mem_range.mp hk')
  simp; omega

theorem EraseCore_after {n : Nat} {req : Nat → Int} {s sa : QState} {k : Nat}
    (hi : EraseCore n req (view s)) (hkey : nextKey s = .ok (some (k, sa))) (hmem : k ∈ s.ordering) :
    ∃ s1, nextTrial s = .ok (some s1) ∧ EraseCore n req (view s1) ∧
      (view s1).keys = (view s).keys ++ [k] ∧ (view s1).draws = sa.draws ∧ (view s1).kind = s.kind := by
  have hlen : s.data.length = n := hi.base.len
  have hkind : s.kind = .fifo ∨ s.kind = .random := hi.kind
  have hord : s.ordering = unsatList n req (view s).keys := hi.ord
  have f1 := nextKey_frame hkey
  have hsak : sa.kind = s.kind := by rw [f1]
  have hsao : sa.ordering = s.ordering := by rw [f1]
  have hsad : sa.data = s.data := by rw [f1]
  have hmem' := hmem
  rw [hord, mem_unsatList] at hmem'
  obtain ⟨hkl, hunsat⟩ := hmem'
  have hdec := decrementKey_erase (s := sa) (by rw [hsak]; exact hkind) (by rw [hsao]; exact hmem)
  obtain ⟨s1, hs1, hv⟩ := nextTrial_ok hkey hdec (by rw [hlen]; exact hkl) hi.base.delays
  refine ⟨s1, hs1, ?_, by rw [hv], by rw [hv], by rw [hv]; rfl⟩
  have hb1 : Base n req (view s1) := Base_step hi.base hkl (by rw [hv]; rfl) (by rw [hv])
  have hkeys : (view s1).keys = (view s).keys ++ [k] := by rw [hv]
  have hdata : (view s1).data = dataStep s.data k := by rw [hv]
  refine ⟨hb1, by rw [hv]; exact hkind, ?_, ?_⟩
  · have : (view s1).ordering =
        if trv (setTrials s.data k (· - 1)) k ≤ 0 then s.ordering.erase k else s.ordering := by
      rw [hv]; simp only [hsad, hsao]
    rw [this, hkeys, unsatList_snoc, trv_setTrials _ _ _ (by rw [hlen]; exact hkl), if_pos rfl, hord,
      show trv s.data k = req k - (((view s).keys.count k : Nat) : Int) from hi.base.led k hkl]
  · rw [hdata]
    exact nonneg_dataStep hlen hkl ((hi.base.unsat_iff hkl).mpr hunsat) hi.nonneg

theorem EraseCore.done_le {n : Nat} {req : Nat → Int} {v : PView} (hi : EraseCore n req v)
    (ho : v.ordering = []) (k : Nat) (hk : k < n) : trv v.data k ≤ 0 := by
  have hm : k ∉ unsatList n req v.keys := by rw [← hi.ord, ho]; simp
  rw [mem_unsatList] at hm
  rw [hi.base.led k hk]
  exact Int.sub_nonpos_of_le (Int.not_lt.mp (fun h => hm ⟨hk, h⟩))

structure FifoPick (n : Nat) (req : Nat → Int) (v : PView) : Prop where
  core : EraseCore n req v
  kind : v.kind = .fifo
  pick : ∀ j (h : j < v.keys.length), (unsatList n req (v.keys.take j)).head? = some v.keys[j]

theorem FifoPick_init {s : QState} (h : Loaded s) (hk : s.kind = .fifo) :
    FifoPick s.data.length (fun k => trialsOf s k) (view s) :=
  ⟨EraseCore_init h (Or.inl hk), hk, by intro j hj; simp [view, h.added] at hj⟩

theorem FifoPick_step {n : Nat} {req : Nat → Int} (s : QState) (hi : FifoPick n req (view s)) :
    nextTrial s = .ok none ∨ ∃ s1, nextTrial s = .ok (some s1) ∧ FifoPick n req (view s1) := by
  have hkind : s.kind = .fifo := hi.kind
  have hord : s.ordering = unsatList n req (view s).keys := hi.core.ord
  cases ho : s.ordering with
  | nil => exact Or.inl (nextTrial_of_empty (Or.inl hkind) ho)
  | cons k rest =>
    right
    have hkey : nextKey s = .ok (some (k, s)) := by simp [nextKey, hkind, ho]
    obtain ⟨s1, hs1, hc1, hkeys, _, hk1⟩ := EraseCore_after hi.core hkey (by simp [ho])
    refine ⟨s1, hs1, hc1, by rw [hk1]; exact hkind, ?_⟩
    rw [hkeys]
    exact snoc_each (P := fun _ pre x => (unsatList n req pre).head? = some x) hi.pick
      (by rw [← hord, ho]; rfl)

/-- Random policy, `n` stimuli with requested counts `req`, oracle stream `D0` at load time,
`m` draws still guaranteed. -/
structure RandInv (n : Nat) (req : Nat → Int) (D0 : List Nat) (m : Nat) (v : PView) : Prop where
  core : EraseCore n req v
  kind : v.kind = .random
  draws : v.draws = D0.drop v.keys.length
  budget : m ≤ v.draws.length
  pick : ∀ j (h : j < v.keys.length), ∃ d, D0[j]? = some d ∧
    (unsatList n req (v.keys.take j))[d % (unsatList n req (v.keys.take j)).length]? = some v.keys[j]

theorem RandInv_init {s : QState} {m : Nat} (h : Loaded s) (hk : s.kind = .random)
    (hm : m ≤ s.draws.length) : RandInv s.data.length (fun k => trialsOf s k) s.draws m (view s) :=
  ⟨EraseCore_init h (Or.inr hk), hk, by simp [view, h.added], hm,
   by intro j hj; simp [view, h.added] at hj⟩

theorem RandInv_mono {n : Nat} {req : Nat → Int} {D0 : List Nat} (m : Nat) (v : PView)
    (h : RandInv n req D0 (m + 1) v) : RandInv n req D0 m v :=
  ⟨h.core, h.kind, h.draws, by have := h.budget; omega, h.pick⟩

theorem nextKey_random {s : QState} {d : Nat} {ds : List Nat} (hkind : s.kind = .random)
    (ho : s.ordering ≠ []) (hd : s.draws = d :: ds) :
    ∃ k, s.ordering[d % s.ordering.length]? = some k ∧
      nextKey s = .ok (some (k, { s with draws := ds })) := by
  have hl : 0 < s.ordering.length := List.length_pos_iff.mpr ho
  have hlt : d % s.ordering.length < s.ordering.length := Nat.mod_lt _ hl
  refine ⟨s.ordering[d % s.ordering.length], List.getElem?_eq_getElem hlt, ?_⟩
  unfold nextKey
  have hl0 : ¬ s.ordering.length = 0 := by omega
  simp only [hkind, hl0, if_false, hd, List.getElem?_eq_getElem hlt]

theorem RandInv_step {n : Nat} {req : Nat → Int} {D0 : List Nat} (m : Nat) (s : QState)
    (hi : RandInv n req D0 (m + 1) (view s)) :
    nextTrial s = .ok none ∨ ∃ s1, nextTrial s = .ok (some s1) ∧ RandInv n req D0 m (view s1) := by
  have hkind : s.kind = .random := hi.kind
  by_cases ho : s.ordering = []
  · exact Or.inl (nextTrial_of_empty (Or.inr (Or.inl hkind)) ho)
  · right
    have hbud : m + 1 ≤ s.draws.length := hi.budget
    have hdr : s.draws = D0.drop (view s).keys.length := hi.draws
    have hord : s.ordering = unsatList n req (view s).keys := hi.core.ord
    cases hds : s.draws with
    | nil => rw [hds] at hbud; simp at hbud
    | cons d ds =>
      obtain ⟨k, hget, hkey⟩ := nextKey_random hkind ho hds
      obtain ⟨s1, hs1, hc1, hkeys, hdraws, hk1⟩ := EraseCore_after hi.core hkey (List.mem_of_getElem? hget)
      have hdraws' : (view s1).draws = ds := hdraws
      refine ⟨s1, hs1, hc1, by rw [hk1]; exact hkind, ?_, ?_, ?_⟩
      · rw [hdraws', hkeys, List.length_append, List.length_singleton, List.drop_add_one_eq_tail_drop,
          ← hdr, hds]
        rfl
      · rw [hdraws']
        rw [hds] at hbud
        simp only [List.length_cons] at hbud
        omega
      · rw [hkeys]
        refine snoc_each (P := fun j pre x => ∃ d, D0[j]? = some d ∧
          (unsatList n req pre)[d % (unsatList n req pre).length]? = some x) hi.pick
          ⟨d, by rw [← List.head?_drop, ← hdr, hds]; rfl, by rw [← hord]; exact hget⟩

end Psi.Queue

import PsiModel.Stim
import PsiProofs.Helper.C01_Chunk
/-! Equations of the NumPy idioms the stimulus code is written in: `np.clip` against a sample
count, and the slice assignments `l[a:a+len(v)] = v`, `l[a:b] = x`, `l[:k] = 0`, `l[k:] = 0`. -/
namespace Psi.Stim

variable {α : Type}

theorem clip_zero_natCast (x : Int) (n : Nat) : clip x 0 n = ((min x.toNat n : Nat) : Int) := by
  unfold clip; omega

theorem setSlice_length (l : List α) (a : Nat) (v : List α) (h : a + v.length ≤ l.length) :
    (setSlice l a v).length = l.length := by
  simp only [setSlice, List.length_append, List.length_take, List.length_drop]; omega

theorem setSlice_getElem? (l : List α) (a : Nat) (v : List α) (h : a ≤ l.length) (j : Nat) :
    (setSlice l a v)[j]? = if a ≤ j ∧ j < a + v.length then v[j - a]? else l[j]? := by
  simp only [setSlice, List.getElem?_append, List.length_append, List.length_take,
    List.getElem?_take, List.getElem?_drop, Nat.min_eq_left h]
  by_cases h1 : j < a
  · rw [if_pos (by omega), if_pos h1, if_pos h1, if_neg (by omega)]
  · rw [if_neg h1]
    by_cases h2 : j < a + v.length
    · rw [if_pos h2, if_pos ⟨by omega, h2⟩]
    · rw [if_neg h2, if_neg (by omega)]
      congr 1; omega

theorem setSlice_nil (l : List α) (a : Nat) : setSlice l a [] = l := by
  simp only [setSlice, List.append_nil, Nat.add_zero, List.length_nil, List.take_append_drop]

/-- Writing `v` from position `a` as far as it fits (`l[a:a+m] = v[:m]`, nothing when `a` is
past the end). -/
theorem setSlice_take_length (l v : List α) (a : Nat) : (setSlice l a (v.take (l.length - a))).length = l.length := by
  rcases Nat.lt_or_ge a l.length with h | h
  · rw [setSlice_length _ _ _ (by rw [List.length_take]; omega)]
  · rw [Nat.sub_eq_zero_of_le h, List.take_zero, setSlice_nil]

theorem setSlice_take_getElem? (l v : List α) (a j : Nat) (hj : j < l.length) :
    (setSlice l a (v.take (l.length - a)))[j]? = if a ≤ j ∧ j < a + v.length then v[j - a]? else l[j]? := by
  by_cases hc : a ≤ j ∧ j < a + v.length
  · rw [setSlice_getElem? _ _ _ (by omega), List.length_take, if_pos (by omega), if_pos hc, List.getElem?_take,
      if_pos (by omega)]
  · rw [if_neg hc]
    rcases Nat.lt_or_ge a l.length with h | h
    · rw [setSlice_getElem? _ _ _ (by omega), List.length_take, if_neg (by omega)]
    · rw [Nat.sub_eq_zero_of_le h, List.take_zero, setSlice_nil]

theorem setRange_eq_setSlice (l : List α) (a b : Nat) (v : α) :
    setRange l a b v = setSlice l a ((List.replicate (b - a) v).take (l.length - a)) := by
  unfold setRange setSlice
  rw [List.take_replicate, List.length_replicate, Nat.sub_min_sub_right, Nat.min_comm l.length b]
  rcases Nat.le_total a (min b l.length) with h | h
  · rw [Nat.max_eq_right h, Nat.add_sub_cancel' h]
  · rw [Nat.max_eq_left h, Nat.sub_eq_zero_of_le h, Nat.add_zero]

theorem setRange_length (l : List α) (a b : Nat) (v : α) : (setRange l a b v).length = l.length := by
  rw [setRange_eq_setSlice, setSlice_take_length]

theorem setRange_getElem? (l : List α) (a b : Nat) (v : α) (i : Nat) :
    (setRange l a b v)[i]? = (l[i]?).map fun x => if a ≤ i ∧ i < b then v else x := by
  by_cases hi : i < l.length
  · rw [setRange_eq_setSlice, setSlice_take_getElem? _ _ _ _ hi, List.length_replicate, List.getElem?_replicate,
      List.getElem?_eq_getElem hi, Option.map_some]
    by_cases hc : a ≤ i ∧ i < b
    · rw [if_pos (by omega), if_pos (by omega), if_pos hc]
    · rw [if_neg (by omega), if_neg hc]
  · rw [List.getElem?_eq_none (by omega : l.length ≤ i),
      List.getElem?_eq_none (by rw [setRange_length]; omega)]
    rfl

theorem zeroPrefix_eq_setRange [Sample α] (k : Nat) (l : List α) :
    zeroPrefix k l = setRange l 0 k Sample.zero := by
  unfold zeroPrefix setRange
  rw [List.take_zero, List.nil_append, Nat.sub_zero, Nat.zero_max]
  rcases Nat.le_total k l.length with h | h
  · rw [Nat.min_eq_left h]
  · rw [Nat.min_eq_right h, List.drop_of_length_le h, List.drop_of_length_le (Nat.le_refl _)]

theorem zeroFrom_eq_setRange [Sample α] (k : Nat) (l : List α) :
    zeroFrom k l = setRange l k l.length Sample.zero := by
  unfold zeroFrom setRange
  rw [Nat.min_self, List.drop_of_length_le (Nat.le_max_right _ _), List.append_nil]

end Psi.Stim

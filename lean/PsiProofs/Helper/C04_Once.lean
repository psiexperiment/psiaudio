import PsiProofs.Helper.C04_Cons
/-! Every notified trial is either still logged or was removed exactly once. -/
namespace Psi.Queue

def Once (s : QState) : Prop :=
  (s.generated.map (·.uid) ++ s.removed).Perm (List.range s.added.length)

theorem Once_of_same {s s' : QState} (h : Once s) (hg : s'.generated = s.generated)
    (hr : s'.removed = s.removed) (ha : s'.added = s.added) : Once s' := by
  unfold Once at *; rw [hg, hr, ha]; exact h

theorem Once_nextTrial {s s1 : QState} (h : Once s) (hn : nextTrial s = .ok (some s1)) : Once s1 := by
  obtain ⟨info, g, ha, hg, _, hu, _, _, _, _, _, _, hr, _⟩ := nextTrial_obs hn
  unfold Once at *
  rw [hg, hr, ha]
  simp only [List.map_append, List.map_cons, List.map_nil, List.length_append, List.length_cons,
    List.length_nil, hu, List.range_succ]
  have : (s.generated.map (·.uid) ++ [s.added.length] ++ s.removed).Perm
      (s.generated.map (·.uid) ++ s.removed ++ [s.added.length]) := by
    simp only [List.append_assoc]
    exact List.Perm.append_left _ List.perm_append_comm
  exact this.trans (List.Perm.append_right _ h)

theorem Once_tick {s s' : QState} {c : Cell} (ho : Once s) (h : tick s = .ok (c, s')) : Once s' :=
  tickD_preserves (d := true)
    (fun hb ho => Once_of_same ho (by rw [hb]) (by rw [hb]) (by rw [hb]))
    Once_nextTrial ho h

theorem Once_pause (m : Option Int) {s : QState} (ho : Once s) : Once (pause m s).1 := by
  cases m with
  | none => exact Once_of_same ho rfl rfl rfl
  | some m =>
    obtain ⟨_, hg, hr, ha, _⟩ := pause_fields m s
    unfold Once at *
    rw [hg, hr, ha]
    refine List.Perm.trans ?_ ho
    rw [List.perm_iff_count]
    intro a
    have hp := (List.filter_append_perm (endsAfter m) s.generated).map (·.uid)
    have hc := hp.count_eq a
    simp only [List.map_append, List.count_append] at hc
    simp only [List.count_append, List.filter_reverse, List.map_reverse, List.count_reverse]
    omega

theorem Once_resume (m : Option Int) {s : QState} (ho : Once s) : Once (resume m s) := by
  unfold resume
  cases m <;> exact Once_of_same ho rfl rfl rfl

theorem Once_nodup {s : QState} (ho : Once s) :
    s.removed.Nodup ∧ (s.generated.map (·.uid)).Nodup ∧
    (∀ u ∈ s.removed, u ∉ s.generated.map (·.uid)) ∧ (∀ u, u < s.added.length ↔ (u ∈ s.generated.map (·.uid) ∨ u ∈ s.removed)) := by
  have hn : (s.generated.map (·.uid) ++ s.removed).Nodup := ho.nodup_iff.mpr List.nodup_range
  rw [List.nodup_append] at hn
  refine ⟨hn.2.1, hn.1, ?_, ?_⟩
  · intro u hu hg
    exact hn.2.2 u hg u hu rfl
  · intro u
    have := ho.mem_iff (a := u)
    simp only [List.mem_append, List.mem_range] at this
    exact this.symm

end Psi.Queue

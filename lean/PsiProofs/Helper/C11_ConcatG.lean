import PsiProofs.Helper.C11_Slice
/-! Evaluation of `concat` on a list of well-formed arrays of one dimensionality, its contiguity loop, and
`np.concatenate` of slabs. -/
namespace Psi.PData

theorem mapM_getArr_all (arrs : List PD) (h : ∀ a ∈ arrs, WF a) :
    arrs.mapM (fun a => getArr Fixes.all a (.one (.slice .all))) = .ok arrs := by
  simpa using mapM_eq_map _ id arrs fun a ha => getArr_all (h a ha)

theorem WF.ndim_le {a : PD} (h : WF a) : 1 ≤ a.ndim ∧ a.ndim ≤ 3 := by cases h <;> simp [PD.ndim]

theorem ensureIndex_all (d : Nat) (dim : Dim) (hk : dim.k ≤ d) (hd : d ≤ 3) : ensureIndex d dim = .one (.slice .all) := by
  cases dim <;> simp only [Dim.k] at hk
  · rfl
  · match d, hk, hd with
    | 2, _, _ => rfl
    | 3, _, _ => rfl
  · match d, hk, hd with
    | 3, _, _ => rfl

def chanList (a : PD) : List Label := match a.channel with | .many l => l | .one _ => []
def metaList (a : PD) : List Md := match a.metadata with | .many l => l | .one _ => []

theorem WF.chan_many {a : PD} (h : WF a) (h2 : 2 ≤ a.ndim) : a.channel = .many (chanList a) ∧ (chanList a).length = shapeM2 a.shape := by
  cases h with
  | d1 => simp [PD.ndim] at h2
  | d2 c n data s0 fs l m hd hl => simp [chanList, shapeM2, hl]
  | d3 e c n data s0 fs l ms hd hl hm => simp [chanList, shapeM2, hl]

theorem WF.meta_many {a : PD} (h : WF a) (h3 : 3 ≤ a.ndim) : a.metadata = .many (metaList a) ∧ (metaList a).length = shapeM3 a.shape := by
  cases h with
  | d1 => simp [PD.ndim] at h3
  | d2 => simp [PD.ndim] at h3
  | d3 e c n data s0 fs l ms hd hl hm => simp [metaList, shapeM3, hm]

def joinChan (dim : Dim) (base : PD) (arrs : List PD) : Chan :=
  if dim = .channel then .many (arrs.map chanList).flatten else base.channel

def joinMeta (dim : Dim) (base : PD) (arrs : List PD) : Meta :=
  if dim = .epoch then .many (arrs.map metaList).flatten else base.metadata

/-- `PipelineData.__new__` -/
theorem construct_ok (shape data : List Nat) (fs : Rat) (s0 : Int) (ch : Chan) (md : Meta)
    (hc : 1 < shape.length → ∃ l, ch = .many l ∧ l.length = shapeM2 shape)
    (hm : 2 < shape.length → ∃ l, md = .many l ∧ l.length = shapeM3 shape) :
    construct shape data fs s0 ch md = .ok ⟨shape, data, s0, fs, ch, md⟩ := by
  unfold construct
  by_cases h1 : shape.length > 1
  · obtain ⟨l, rfl, hl⟩ := hc h1
    by_cases h2 : shape.length > 2
    · obtain ⟨lm, rfl, hlm⟩ := hm h2
      simp [h1, h2, hl, hlm]
    · simp [h1, h2, hl]
  · have h2 : ¬ shape.length > 2 := by omega
    cases ch with
    | many l => simp [h1, h2]
    | one lab => cases lab <;> simp [h1, h2]

structure Joinable (dim : Dim) (base : PD) (rest : List PD) : Prop where
  fs : ∀ a ∈ rest, a.fs = base.fs
  s0 : dim = .time → checkS0 (base.s0 + base.nTime) rest = true
  chan : dim ≠ .channel → ∀ a ∈ rest, a.channel = base.channel
  md : dim ≠ .epoch → ∀ a ∈ rest, a.metadata = base.metadata

section
variable (dim : Dim) (base : PD) (rest : List PD) (d : Nat) (hwf : ∀ a ∈ base :: rest, WF a)
  (hnd : ∀ a ∈ base :: rest, a.ndim = d) (hk : dim.k ≤ d)
include hwf hnd hk

/-- `ensure_dim` changes nothing; what is left are the four checks, `np.concatenate` and the constructor. -/
theorem concat_checks :
    concat (base :: rest) dim =
      if (rest.any fun a => a.fs != base.fs) || (dim == .time && !checkS0 (base.s0 + base.nTime) rest) ||
          (dim != .channel && rest.any fun a => a.channel != base.channel) ||
          (dim != .epoch && rest.any fun a => a.metadata != base.metadata) then .error .valueError
      else match npConcat ((base :: rest).map fun a => (a.shape, a.data)) dim.k with
        | .error e => .error e
        | .ok (shape, data) =>
          construct shape data base.fs base.s0 (joinChan dim base (base :: rest)) (joinMeta dim base (base :: rest)) := by
  have hd3 : d ≤ 3 := by have := (hwf base (by simp)).ndim_le; have := hnd base (by simp); omega
  have hbd : base.ndim = d := hnd base (by simp)
  have h1 : (rest.any fun a => a.ndim != d) = false := by
    simp only [List.any_eq_false, bne_iff_ne, ne_eq, Decidable.not_not]
    intro a ha; rw [hnd a (by simp [ha])]
  simp only [concat, concatG, hbd, ensureIndex_all d dim hk hd3, mapM_getArr_all _ hwf, h1,
    Bool.false_eq_true, ↓reduceIte]
  by_cases hA : (rest.any fun a => a.fs != base.fs) = true
  · simp [hA]
  cases dim with
  | time =>
    by_cases hB : checkS0 (base.s0 + base.nTime) rest = true
    · by_cases hC : (rest.any fun a => a.channel != base.channel) = true
      · simp [hA, hB, hC]
      · by_cases hD : (rest.any fun a => a.metadata != base.metadata) = true <;>
          simp [hA, hB, hC, hD, joinChan, joinMeta] <;> rfl
    · simp [hA, hB]
  | channel =>
    rw [mapM_eq_map _ chanList (base :: rest) fun a ha => by
      rw [((hwf a ha).chan_many (by rw [hnd a ha]; exact hk)).1]]
    by_cases hD : (rest.any fun a => a.metadata != base.metadata) = true <;>
      simp [hA, hD, joinChan, joinMeta, Except.map] <;> rfl
  | epoch =>
    rw [List.flatMap_def, List.map_congr_left (g := metaList) fun a ha => by
      have h3 : 3 ≤ a.ndim := by rw [hnd a ha]; exact hk
      rw [((hwf a ha).meta_many h3).1]; simp [h3]]
    by_cases hC : (rest.any fun a => a.channel != base.channel) = true <;>
      simp [hA, hC, joinChan, joinMeta] <;> rfl

theorem concat_eval (hj : Joinable dim base rest) (shape data : List Nat)
    (hnp : npConcat ((base :: rest).map fun a => (a.shape, a.data)) dim.k = .ok (shape, data)) :
    concat (base :: rest) dim =
      construct shape data base.fs base.s0 (joinChan dim base (base :: rest)) (joinMeta dim base (base :: rest)) := by
  rw [concat_checks dim base rest d hwf hnd hk, if_neg, hnp]
  intro h
  simp only [Bool.or_eq_true, Bool.and_eq_true, List.any_eq_true, bne_iff_ne, beq_iff_eq, Bool.not_eq_true'] at h
  rcases h with ((⟨a, ha, h⟩ | ⟨hd, h⟩) | ⟨hd, a, ha, h⟩) | ⟨hd, a, ha, h⟩
  · exact h (hj.fs a ha)
  · rw [hj.s0 hd] at h; cases h
  · exact h (hj.chan hd a ha)
  · exact h (hj.md hd a ha)

theorem concat_not_joinable
    (hbad : (∃ a ∈ rest, a.fs ≠ base.fs) ∨ (dim = .time ∧ checkS0 (base.s0 + base.nTime) rest = false) ∨
      (dim ≠ .channel ∧ ∃ a ∈ rest, a.channel ≠ base.channel) ∨
      (dim ≠ .epoch ∧ ∃ a ∈ rest, a.metadata ≠ base.metadata)) :
    concat (base :: rest) dim = .error .valueError := by
  rw [concat_checks dim base rest d hwf hnd hk, if_pos]
  simpa only [Bool.or_eq_true, Bool.and_eq_true, List.any_eq_true, bne_iff_ne, beq_iff_eq, Bool.not_eq_true',
    or_assoc, ne_eq] using hbad
end

theorem checkS0_iff : ∀ (l : List PD) (cur : Int), checkS0 cur l = true ↔
    ∀ (i : Nat) (h : i < l.length), l[i].s0 = cur + ((l.take i).map fun a => (a.nTime : Int)).sum
  | [], cur => by simp [checkS0]
  | a :: rest, cur => by
    simp only [checkS0, Bool.and_eq_true, beq_iff_eq, checkS0_iff rest]
    constructor
    · rintro ⟨h0, hr⟩ i hi
      cases i with
      | zero => simp [h0]
      | succ j =>
        have := hr j (by simpa using hi)
        simp only [List.getElem_cons_succ, List.take_succ_cons, List.map_cons, List.sum_cons, this]
        omega
    · intro h
      refine ⟨by have := h 0 (by simp); simpa only [List.getElem_cons_zero, List.take_zero, List.map_nil, List.sum_nil, Int.add_zero] using this, fun i hi => ?_⟩
      have := h (i + 1) (by simpa using hi)
      simp only [List.getElem_cons_succ, List.take_succ_cons, List.map_cons, List.sum_cons] at this
      rw [this]; omega

theorem npConcat_slabs (pre post : List Nat) (P Q : List (List Nat)) (hP : P.map List.length = pre)
    (hQ : Q.map List.length = post) (g : Nat → Nat) (X0 : List Nat) (Xr : List (List Nat)) :
    npConcat ((X0 :: Xr).map fun X => (pre ++ [X.length] ++ post, (cart (P ++ X :: Q)).map g)) (post.length + 1) =
      .ok (pre ++ [((X0 :: Xr).map List.length).sum] ++ post, (cart (P ++ (X0 :: Xr).flatten :: Q)).map g) := by
  have hblk : ∀ X : List Nat, blocks (prod (X.length :: post)) (prod pre) ((cart (P ++ X :: Q)).map g) =
      (cart P).map fun o => ((cart (X :: Q)).map (o + ·)).map g := by
    intro X
    rw [cart_append, List.map_flatMap]
    have hlen : (cart P).length = prod pre := by rw [cart_length, hP]
    rw [← hlen]
    apply blocks_flatMap
    intro o _
    simp only [List.length_map, cart_length, List.map_cons, hQ]
  have hax : ∀ m : Nat, (pre ++ [m] ++ post).drop pre.length = m :: post := by intro m; simp
  have ht : ∀ m : Nat, (pre ++ [m] ++ post).take pre.length = pre := by intro m; simp
  have hd1 : ∀ m : Nat, (pre ++ [m] ++ post).drop (pre.length + 1) = post := by
    intro m; rw [List.append_assoc, List.drop_append]; simp
  have hg : ∀ m : Nat, (pre ++ [m] ++ post).getD pre.length 0 = m := by intro m; simp
  have e1 : (pre ++ [X0.length] ++ post).length - (post.length + 1) = pre.length := by simp
  have e0 : ¬ ((pre ++ [X0.length] ++ post).length < post.length + 1) := by simp
  simp only [npConcat, List.map_cons, e0, ↓reduceIte, e1, ht, hd1, hax, hg, List.all_cons, List.all_map, List.map_map,
    Function.comp_def, hblk, ← List.sum_eq_foldl]
  rw [if_neg (by simp)]
  have hlenP : prod pre = (cart P).length := by rw [cart_length, hP]
  have hint := interleave_map (X0 :: Xr) (cart P) (fun X o => List.map (fun x => g (o + x)) (cart (X :: Q)))
  simp only [List.map_cons] at hint
  simp only [hlenP, hint]
  congr 2
  rw [cart_append, List.map_flatMap]
  congr 1; funext o
  rw [← List.flatMap_id, cart_flatMap_axis, List.map_flatMap, List.map_flatMap]
  simp [Function.comp_def]

end Psi.PData

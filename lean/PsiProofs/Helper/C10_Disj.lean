import PsiProofs.Helper.C10_Inv
/-! Distinct results handed out by the repaired wrapper share no storage. -/
namespace Psi.Cache
set_option linter.unusedSectionVars false
variable {κ ω α : Type} [DecidableEq κ] [DecidableEq ω]

def Disj (s : State κ ω α) : Prop :=
  (∀ h ∈ s.handles, h.Nodup) ∧ s.handles.Pairwise (fun a b => ∀ x ∈ a, x ∉ b)

theorem copyOut_range {s : State κ ω α} {as : List Nat} {vs : List (List α)}
    (h : readAll s.heap as = some vs) : (copyOut s as).2 = List.range' s.heap.length vs.length := by
  unfold copyOut; rw [h]; rfl

theorem copyOut_nodup (s : State κ ω α) (as : List Nat) : (copyOut s as).2.Nodup := by
  unfold copyOut
  split
  · exact List.nodup_range'
  · exact List.nodup_nil

theorem callRaw_copy_nodup (sg : Sig κ ω α) (s : State κ ω α) (key : Key κ ω) :
    (callRaw .copy sg s key).2.Nodup := by
  cases key with
  | leaf k => exact copyOut_nodup _ _
  | wrap w => simp only [callRaw]; exact copyOut_nodup _ _

theorem call_copy_disj {sg : Sig κ ω α} {s : State κ ω α} (hi : Inv sg s) (hd : Disj s) (key : Key κ ω) :
    Disj (call .copy sg s key) := by
  have c := callRaw_copy_spec hi key
  unfold call
  refine ⟨?_, ?_⟩
  · simp only [c.ext.handles]
    exact List.forall_mem_append.2
      ⟨hd.1, List.forall_mem_singleton.2 (callRaw_copy_nodup sg s key)⟩
  · simp only [c.ext.handles]
    rw [List.pairwise_append]
    refine ⟨hd.2, List.pairwise_singleton _ _, ?_⟩
    intro a ha b hb x hx hxb
    rw [List.mem_singleton] at hb; subst hb
    have h1 := hi.valid a ha x hx
    have h2 := c.fresh x hxb
    omega

theorem step_copy_disj {sg : Sig κ ω α} {s : State κ ω α} (hi : Inv sg s) (hd : Disj s) (op : Op κ ω α) :
    Disj (step .copy sg s op) := by
  cases op with
  | call k => exact call_copy_disj hi hd k
  | mutate h c i x =>
    simp only [step]
    split
    · rename_i s' hm
      obtain ⟨_, _, _, _, rfl⟩ := mutate_ok hm
      exact hd
    · exact hd
  | scribble x => exact hd

theorem run_copy_disj {sg : Sig κ ω α} (ops : List (Op κ ω α)) {s : State κ ω α} (hi : Inv sg s)
    (hd : Disj s) : Disj (run .copy sg ops s) :=
  (run_induction (P := fun s => Inv sg s ∧ Disj s)
    (fun _ op h => ⟨step_copy_inv h.1 op, step_copy_disj h.1 h.2 op⟩) ops ⟨hi, hd⟩).2

theorem Disj.init : Disj (State.init : State κ ω α) :=
  ⟨fun _ h => (nomatch h), List.Pairwise.nil⟩

theorem Disj.apart {s : State κ ω α} (hd : Disj s) {h h' : Nat} {as bs : List Nat} (hne : h ≠ h')
    (ha : s.handles[h]? = some as) (hb : s.handles[h']? = some bs) : ∀ x ∈ as, x ∉ bs := by
  obtain ⟨h1, e1⟩ := List.getElem?_eq_some_iff.mp ha
  obtain ⟨h2, e2⟩ := List.getElem?_eq_some_iff.mp hb
  have hp := List.pairwise_iff_getElem.mp hd.2
  rcases Nat.lt_or_gt_of_ne hne with hlt | hgt
  · have := hp h h' h1 h2 hlt
    rw [e1, e2] at this; exact this
  · have := hp h' h h2 h1 hgt
    rw [e1, e2] at this
    intro x hx hxb; exact this x hxb hx

theorem mutate_other_handle {s s' : State κ ω α} (hd : Disj s) {h c i : Nat} {x : α}
    (hm : mutate s h c i x = .ok s') {h' : Nat} (hne : h' ≠ h) : readHandle s' h' = readHandle s h' := by
  obtain ⟨as, a, has, hac, rfl⟩ := mutate_ok hm
  unfold readHandle
  cases hb : s.handles[h']? with
  | none => rfl
  | some bs =>
    exact readAll_setCell _ _ fun hab => hd.apart (Ne.symm hne) has hb a (List.mem_of_getElem? hac) hab

end Psi.Cache

import PsiProofs.Helper.C05_Lists
/-! Helper for C05: histories, the look-back window, validity of a history, the state invariant;
runs over concatenated histories and what one key sees of a state and of an outcome. -/
namespace Psi.Extract

def total {α} (ops : List (Op α)) : Nat := (ops.map (·.chunk.length)).sum

def streamOf {α} (ops : List (Op α)) : List α := (ops.map (·.chunk)).flatten

def allReqs {α} (ops : List (Op α)) : List Request := ops.flatMap (·.reqs)

def withStarts {α} : Nat → List (Op α) → List (Nat × List α)
  | _, [] => []
  | a, op :: ops => (a, op.chunk) :: withStarts (a + op.chunk.length) ops

def ChunksOf {α} (S : List α) : Nat → List (Op α) → Prop
  | _, [] => True
  | a, op :: ops => op.chunk = slice S a op.chunk.length ∧ a + op.chunk.length ≤ S.length ∧
      ChunksOf S (a + op.chunk.length) ops

def headStart {α} (l : List (Nat × List α)) (b : Nat) : Nat :=
  match l with
  | [] => b
  | x :: _ => x.1

/-- Start of the oldest chunk that `prior_samples` still holds when the call following
`hist` takes in its requests: the prune rule (pipeline.py 852-858) applied to the chunk
list of `hist`; the new chunk itself starts at `total hist`. -/
def lookbackStart {α} (B : Nat) (hist : List (Op α)) : Nat :=
  headStart (prune B (total hist) (withStarts 0 hist)) (total hist)

theorem total_append {α} (a b : List (Op α)) : total (a ++ b) = total a + total b := by
  simp [total]

theorem total_single {α} (op : Op α) : total [op] = op.chunk.length := by simp [total]

theorem total_cons {α} (op : Op α) (ops : List (Op α)) : total (op :: ops) = op.chunk.length + total ops := by
  simp [total]

theorem allReqs_append {α} (a b : List (Op α)) : allReqs (a ++ b) = allReqs a ++ allReqs b := by
  simp [allReqs]

theorem withStarts_append {α} (a : Nat) (l m : List (Op α)) :
    withStarts a (l ++ m) = withStarts a l ++ withStarts (a + total l) m := by
  induction l generalizing a with
  | nil => simp [withStarts, total]
  | cons op ops ih =>
    simp only [List.cons_append, withStarts, ih]
    simp [total, Nat.add_assoc]

theorem chunksOf_append {α} (S : List α) (a : Nat) (l m : List (Op α))
    (h1 : ChunksOf S a l) (h2 : ChunksOf S (a + total l) m) : ChunksOf S a (l ++ m) := by
  induction l generalizing a with
  | nil => simpa [total] using h2
  | cons op ops ih =>
    simp only [List.cons_append, ChunksOf] at h1 ⊢
    refine ⟨h1.1, h1.2.1, ih _ h1.2.2 ?_⟩
    simpa [total, Nat.add_assoc] using h2

theorem contig_withStarts {α} (S : List α) (a : Nat) (ops : List (Op α)) (h : ChunksOf S a ops) :
    Contig S a (withStarts a ops) (a + total ops) := by
  induction ops generalizing a with
  | nil => simp [withStarts, Contig, total]
  | cons op ops ih =>
    simp only [ChunksOf] at h
    simp only [withStarts, Contig]
    refine ⟨trivial, h.1, ?_⟩
    have := ih _ h.2.2
    simpa [total, Nat.add_assoc] using this

theorem contig_dropWhile {α} (S : List α) (a b : Nat) (l : List (Nat × List α)) (p : Nat × List α → Bool)
    (h : Contig S a l b) : Contig S (headStart (l.dropWhile p) b) (l.dropWhile p) b := by
  induction l generalizing a with
  | nil => simp [headStart, Contig]
  | cons x xs ih =>
    obtain ⟨st, ch⟩ := x
    simp only [Contig] at h
    simp only [List.dropWhile_cons]
    split
    · exact ih _ h.2.2
    · simp only [headStart, Contig]
      exact ⟨trivial, h.1 ▸ h.2.1, h.1 ▸ h.2.2⟩

theorem dropWhile_dropWhile_append {β} (p q : β → Bool) (l m : List β) (h : ∀ x, p x = true → q x = true) :
    (l.dropWhile p ++ m).dropWhile q = (l ++ m).dropWhile q := by
  induction l with
  | nil => rfl
  | cons x xs ih =>
    simp only [List.dropWhile_cons]
    by_cases hp : p x = true
    · simp only [hp, if_true, List.cons_append, List.dropWhile_cons, h x hp, ih]
    · simp only [hp]; rfl

theorem prune_prune {α} (B T T' : Nat) (l m : List (Nat × List α)) (h : T ≤ T') :
    prune B T' (prune B T l ++ m) = prune B T' (l ++ m) := by
  unfold prune
  apply dropWhile_dropWhile_append
  intro x hx
  simp only [decide_eq_true_eq] at hx ⊢
  omega

/-- A request whose first sample `s` satisfies `samples acquired so far ≤ s + B` is inside the
look-back window, whatever the chunking. -/
theorem visible_of_recent {α} (B : Nat) (hist : List (Op α)) (s : Nat) (h : total hist ≤ s + B) :
    lookbackStart B hist ≤ s := by
  unfold lookbackStart prune
  -- a dropped chunk ends more than `B` samples before `T ≤ s + B`, so the next one starts at or before `s`
  have key : ∀ (a : Nat) (l : List (Op α)) (T : Nat), a ≤ s → a + total l = T → T ≤ s + B →
      headStart ((withStarts a l).dropWhile (fun x => decide (x.1 + x.2.length + B < T))) T ≤ s := by
    intro a l
    induction l generalizing a with
    | nil =>
      intro T ha hT hs
      rw [total, List.map_nil, List.sum_nil, Nat.add_zero] at hT
      exact hT ▸ ha
    | cons op ops ih =>
      intro T ha hT hs
      simp only [withStarts, List.dropWhile_cons]
      split
      · rename_i hdrop
        rw [total_cons, ← Nat.add_assoc] at hT
        refine ih (a + op.chunk.length) T ?_ hT hs
        have hlt : a + op.chunk.length + B < s + B :=
          Nat.lt_of_lt_of_le (of_decide_eq_true hdrop) hs
        exact Nat.le_of_lt (Nat.lt_of_add_lt_add_right hlt)
      · exact ha
  exact key 0 hist (total hist) (Nat.zero_le _) (Nat.zero_add _) h

structure OpValid {α} (B L : Nat) (hist : List (Op α)) (op : Op α) : Prop where
  nodup : (op.reqs.map (·.key)).Nodup
  fresh : ∀ r ∈ op.reqs, ∀ r' ∈ allReqs hist, r'.key ≠ r.key
  len : ∀ r ∈ op.reqs, r.len = L
  visible : ∀ r ∈ op.reqs, ((lookbackStart B hist : Nat) : Int) ≤ r.s

def AllValid {α} (B L : Nat) : List (Op α) → List (Op α) → Prop
  | _, [] => True
  | hist, op :: rest => OpValid B L hist op ∧ AllValid B L (hist ++ [op]) rest

/-- State invariant of `extract_epochs` after the history `hist` of a stream `S`. -/
structure Inv {α} (S : List α) (B L : Nat) (hist : List (Op α)) (st : State α) : Prop where
  alive : st.dead = false
  tlb : st.tlb = total hist
  buf : st.bufferSamples = B
  prior : st.prior = prune B (total hist) (withStarts 0 hist)
  caps : ∀ c ∈ st.pending, CapInv S (total hist) c ∧ c.req.len = L ∧ c.req ∈ allReqs hist
  nodup : (st.pending.map (·.req.key)).Nodup
  chunks : ChunksOf S 0 hist
  bound : total hist ≤ S.length
  queue : st.queue = []

theorem inv_init {α} (S : List α) (B L : Nat) : Inv S B L [] (State.init B : State α) := by
  refine ⟨rfl, rfl, rfl, ?_, ?_, ?_, trivial, Nat.zero_le _, rfl⟩
  · simp [State.init, withStarts, prune]
  · intro c hc; simp [State.init] at hc
  · simp [State.init]

theorem allValid_fresh {α} (B L : Nat) (hist ops : List (Op α)) (k : Nat)
    (hv : AllValid B L hist ops) (hk : ∃ r ∈ allReqs hist, r.key = k) :
    ∀ op ∈ ops, ∀ r ∈ op.reqs, r.key ≠ k := by
  induction ops generalizing hist with
  | nil => intro op hop; cases hop
  | cons o os ih =>
    simp only [AllValid] at hv
    intro op hop r hr
    rcases List.mem_cons.1 hop with h | h
    · subst h
      obtain ⟨r0, hr0, hk0⟩ := hk
      intro heq
      exact hv.1.fresh r hr r0 hr0 (by rw [hk0, heq])
    · apply ih (hist ++ [o]) hv.2 ?_ op h r hr
      obtain ⟨r0, hr0, hk0⟩ := hk
      exact ⟨r0, by rw [allReqs_append]; exact List.mem_append_left _ hr0, hk0⟩

theorem allValid_append {α} (B L : Nat) (hist a b : List (Op α)) :
    AllValid B L hist (a ++ b) ↔ AllValid B L hist a ∧ AllValid B L (hist ++ a) b := by
  induction a generalizing hist with
  | nil => simp [AllValid]
  | cons op ops ih =>
    simp only [List.cons_append, AllValid, ih, and_assoc]
    have : hist ++ [op] ++ ops = hist ++ op :: ops := by simp
    rw [this]

theorem chunksOf_streamOf {α} (P : List α) (ops : List (Op α)) :
    ChunksOf (P ++ streamOf ops) P.length ops := by
  induction ops generalizing P with
  | nil => trivial
  | cons op ops ih =>
    simp only [ChunksOf, streamOf, List.map_cons, List.flatten_cons]
    refine ⟨?_, by simp, ?_⟩
    · simp [slice]
    · have := ih (P ++ op.chunk)
      simpa [streamOf, List.append_assoc] using this

theorem run_append {α} (st : State α) (a b : List (Op α)) :
    run st (a ++ b) = ((run (run st a).1 b).1, (run st a).2 ++ (run (run st a).1 b).2) := by
  induction a generalizing st with
  | nil => simp [run]
  | cons op ops ih => simp [run, ih]

theorem run_length {α} (st : State α) (ops : List (Op α)) : (run st ops).2.length = ops.length := by
  induction ops generalizing st with
  | nil => rfl
  | cons op ops ih => simp [run, ih]

def pendK {α} (st : State α) (k : Nat) : Pending α := st.pending.filter (fun c => c.req.key == k)

def delivK {α} (k : Nat) : Outcome α → List (Epoch α)
  | .ok batch _ => batch.filter (fun e => e.req.key == k)
  | _ => []

end Psi.Extract

import PsiProofs.Helper.C03_Policy
/-! FIFO policy from any state whose ordering holds exactly the stimuli with trials left: the future
key sequence is `ordering.flatMap (replicate trials)`, and every tick keeps "keys notified so far ++
keys to come" unchanged. -/
namespace Psi.Queue

structure FifoInv (s : QState) : Prop where
  kind : s.kind = .fifo
  nodup : s.ordering.Nodup
  valid : ∀ k ∈ s.ordering, ∃ e, s.data[k]? = some e ∧ 0 < e.trials
  delays : ∀ (i : Nat) (e : Entry), s.data[i]? = some e → e.delays ≠ [] ∧ ∀ d ∈ e.delays, 0 ≤ d
  done : ∀ (i : Nat) (e : Entry), s.data[i]? = some e → i ∉ s.ordering → e.trials = 0

/-- keys still to be presented, in order -/
def remSeq (s : QState) : List Nat :=
  s.ordering.flatMap (fun k => List.replicate (trialsOf s k).toNat k)

/-- `remSeq` read off an ordering and a data table -/
def rs (o : List Nat) (d : List Entry) : List Nat :=
  o.flatMap (fun k => List.replicate (trv d k).toNat k)

theorem remSeq_eq_rs (s : QState) : remSeq s = rs s.ordering s.data := rfl

theorem rs_congr {d d' : List Entry} (o : List Nat) (h : ∀ k ∈ o, trv d' k = trv d k) : rs o d' = rs o d := by
  induction o with
  | nil => rfl
  | cons a l ih =>
    simp only [rs, List.flatMap_cons]
    rw [h a (by simp)]
    congr 1
    exact ih (fun k hk => h k (by simp [hk]))

theorem mem_rs_of_pos {o : List Nat} {d : List Entry} {k : Nat} (hk : k ∈ o) (hp : 0 < trv d k) :
    k ∈ rs o d := by
  simp only [rs, List.mem_flatMap]
  refine ⟨k, hk, ?_⟩
  simp only [List.mem_replicate, and_true]
  omega

/-- what `FifoInv` says about ordering and counters, for `n` stimuli -/
structure PF (n : Nat) (o : List Nat) (d : List Entry) : Prop where
  len : d.length = n
  nodup : o.Nodup
  pos : ∀ k ∈ o, k < n ∧ 0 < trv d k
  done : ∀ k, k < n → k ∉ o → trv d k = 0

theorem PF_of_FifoInv {s : QState} {n : Nat} (hi : FifoInv s) (hl : s.data.length = n) :
    PF n s.ordering s.data := by
  refine ⟨hl, hi.nodup, ?_, ?_⟩
  · intro k hk
    obtain ⟨e, he, hp⟩ := hi.valid k hk
    obtain ⟨hlt, _⟩ := List.getElem?_eq_some_iff.mp he
    exact ⟨by omega, by simp [trv, he, hp]⟩
  · intro k hk hni
    have he : s.data[k]? = some s.data[k] := List.getElem?_eq_getElem (by omega)
    have := hi.done k _ he hni
    simp [trv, he, this]

theorem FifoInv_of_PF {s : QState} {n : Nat} (hk : s.kind = .fifo) (hd : DelaysOK s.data)
    (h : PF n s.ordering s.data) : FifoInv s := by
  refine ⟨hk, h.nodup, ?_, hd, ?_⟩
  · intro k hk'
    obtain ⟨hlt, hp⟩ := h.pos k hk'
    have hkd : k < s.data.length := by rw [h.len]; exact hlt
    have he : s.data[k]? = some s.data[k] := List.getElem?_eq_getElem hkd
    exact ⟨_, he, by simpa [trv, he] using hp⟩
  · intro i e he hni
    obtain ⟨hlt, _⟩ := List.getElem?_eq_some_iff.mp he
    have := h.done i (by rw [← h.len]; exact hlt) hni
    simpa [trv, he] using this

theorem FifoInv_of_view {s s' : QState} (hi : FifoInv s) (hv : view s' = view s) : FifoInv s' := by
  have hk : s'.kind = s.kind := congrArg PView.kind hv
  have ho : s'.ordering = s.ordering := congrArg PView.ordering hv
  have hd : s'.data = s.data := congrArg PView.data hv
  exact ⟨by rw [hk, hi.kind], by rw [ho]; exact hi.nodup, by rw [ho, hd]; exact hi.valid,
    by rw [hd]; exact hi.delays, by rw [ho, hd]; exact hi.done⟩

theorem FifoInv_of_Loaded {s : QState} (h : Loaded s) (hk : s.kind = .fifo) : FifoInv s := by
  refine ⟨hk, by rw [h.ordering]; exact List.nodup_range, ?_, h.delays, ?_⟩
  · intro k hk'
    rw [h.ordering, List.mem_range] at hk'
    have he : s.data[k]? = some s.data[k] := List.getElem?_eq_getElem hk'
    exact ⟨_, he, by have := (h.entries k _ he).2.1; omega⟩
  · intro i e he hni
    obtain ⟨hlt, _⟩ := List.getElem?_eq_some_iff.mp he
    rw [h.ordering, List.mem_range] at hni
    exact absurd hlt hni

theorem pop_PF {n k : Nat} {rest : List Nat} {d : List Entry} (h : PF n (k :: rest) d) :
    PF n (if trv (dataStep d k) k ≤ 0 then rest else k :: rest) (dataStep d k) ∧
    rs (k :: rest) d = k :: rs (if trv (dataStep d k) k ≤ 0 then rest else k :: rest) (dataStep d k) := by
  obtain ⟨hkn, hp⟩ := h.pos k (by simp)
  have hkd : k < d.length := by rw [h.len]; exact hkn
  have ht : ∀ k', trv (dataStep d k) k' = if k' = k then trv d k' - 1 else trv d k' :=
    fun k' => trv_dataStep d k k' hkd
  obtain ⟨hnr, hnd⟩ := List.nodup_cons.mp h.nodup
  have hne : ∀ k' ∈ rest, ¬ k' = k := fun k' hk' e => hnr (e ▸ hk')
  have hrest : rs rest (dataStep d k) = rs rest d :=
    rs_congr rest (fun k' hk' => by rw [ht, if_neg (hne k' hk')])
  have hrep : List.replicate (trv d k).toNat k = k :: List.replicate (trv d k - 1).toNat k := by
    have : (trv d k).toNat = (trv d k - 1).toNat + 1 := by omega
    rw [this, List.replicate_succ]
  have hlen : (dataStep d k).length = n := by rw [dataStep_length, h.len]
  have hk1 : trv (dataStep d k) k = trv d k - 1 := by rw [ht, if_pos rfl]
  split
  · rename_i hle
    rw [hk1] at hle
    refine ⟨⟨hlen, hnd, ?_, ?_⟩, ?_⟩
    · intro k' hk'
      rw [ht, if_neg (hne k' hk')]
      exact h.pos k' (List.mem_cons_of_mem _ hk')
    · intro k' hk' hni
      rw [ht]
      split
      · rename_i e; subst e; exact Int.le_antisymm hle (Int.sub_nonneg_of_le hp)
      · rename_i hne
        exact h.done k' hk' (fun hm => by
          rcases List.mem_cons.mp hm with e | hm
          · exact hne e
          · exact hni hm)
    · have h0 : (trv d k - 1).toNat = 0 := Int.toNat_eq_zero.mpr hle
      simp only [rs, List.flatMap_cons] at hrest ⊢
      rw [hrep, h0, hrest]; rfl
  · rename_i hgt
    rw [hk1] at hgt
    refine ⟨⟨hlen, h.nodup, ?_, ?_⟩, ?_⟩
    · intro k' hk'
      rw [ht]
      split
      · rename_i e; subst e; exact ⟨hkn, Int.not_le.mp hgt⟩
      · exact h.pos k' hk'
    · intro k' hk' hni
      rw [ht, if_neg (fun (e : k' = k) => hni (by simp [e]))]
      exact h.done k' hk' hni
    · simp only [rs, List.flatMap_cons] at hrest ⊢
      rw [hrep, hk1, hrest]; rfl

theorem fifo_nextKey_nil {s : QState} (hi : FifoInv s) (ho : s.ordering = []) :
    nextKey s = .ok none := by
  simp [nextKey, hi.kind, ho]

theorem fifo_nextTrial_cons {s : QState} (hi : FifoInv s) {k : Nat} {rest : List Nat}
    (ho : s.ordering = k :: rest) :
    ∃ s1, nextTrial s = .ok (some s1) ∧ FifoInv s1 ∧ keyLog s1 = keyLog s ++ [k] ∧
      remSeq s = k :: remSeq s1 ∧ s1.ordering.Sublist s.ordering ∧ s1.data.length = s.data.length := by
  have hpf := PF_of_FifoInv hi rfl
  rw [ho] at hpf
  have hkd : k < s.data.length := (hpf.pos k (by simp)).1
  have hkey : nextKey s = .ok (some (k, s)) := by simp [nextKey, hi.kind, ho]
  obtain ⟨s1, hs1, hv⟩ :=
    nextTrial_ok hkey (decrementKey_erase (Or.inl hi.kind) (by simp [ho])) hkd hi.delays
  have hd : s1.data = dataStep s.data k := congrArg PView.data hv
  have hor : s1.ordering =
      if trv (setTrials s.data k (· - 1)) k ≤ 0 then s.ordering.erase k else s.ordering :=
    congrArg PView.ordering hv
  rw [trv_setTrials_eq_dataStep, ho, List.erase_cons_head] at hor
  obtain ⟨hpf1, hrs⟩ := pop_PF hpf
  refine ⟨s1, hs1, ?_, congrArg PView.keys hv, ?_, ?_, by rw [hd, dataStep_length]⟩
  · exact FifoInv_of_PF ((congrArg PView.kind hv).trans hi.kind) (by rw [hd]; exact DelaysOK_dataStep hi.delays k)
      (by rw [hd, hor]; exact hpf1)
  · rw [remSeq_eq_rs, remSeq_eq_rs, ho, hd, hor]; exact hrs
  · rw [hor, ho]
    split
    · exact List.sublist_cons_self k rest
    · exact List.Sublist.refl _

def keySeq (s : QState) : List Nat := keyLog s ++ remSeq s

theorem fifo_run (n : Nat) {s : QState} (hw : WF s) (hi : FifoInv s) :
    ∃ cs s', runTicks n s = .ok (cs, s') ∧ WF s' ∧ FifoInv s' ∧ keySeq s' = keySeq s := by
  have step : ∀ t : QState, (FifoInv t ∧ keySeq t = keySeq s) → nextTrial t = .ok none ∨
      ∃ t1, nextTrial t = .ok (some t1) ∧ FifoInv t1 ∧ keySeq t1 = keySeq s := by
    intro t ⟨hit, hkt⟩
    cases ho : t.ordering with
    | nil => exact Or.inl (nextTrial_none_of (fifo_nextKey_nil hit ho))
    | cons k rest =>
      obtain ⟨t1, ht1, hi1, hlog, hseq, _⟩ := fifo_nextTrial_cons hit ho
      refine Or.inr ⟨t1, ht1, hi1, ?_⟩
      rw [← hkt, keySeq, keySeq, hlog, hseq, List.append_assoc]; rfl
  exact run_inv (I := fun _ t => FifoInv t ∧ keySeq t = keySeq s)
    (fun _ t t' hv ⟨h1, h2⟩ => ⟨FifoInv_of_view h1 hv, by
      rw [← h2, keySeq, keySeq, remSeq_eq_rs, remSeq_eq_rs,
        show keyLog t' = keyLog t from congrArg PView.keys hv,
        show t'.ordering = t.ordering from congrArg PView.ordering hv,
        show t'.data = t.data from congrArg PView.data hv]⟩)
    (fun _ _ h => h) (fun _ t h => step t h) n 0 hw ⟨hi, rfl⟩

end Psi.Queue

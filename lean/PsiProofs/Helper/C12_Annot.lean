import PsiProofs.Helper.C12_Run
/-! Annotations of `rms` (`result.s0 /= n`, a true division) and `auto_th` (`metadata['auto_th'] = th`): the true `s0`
of the `rms` blocks, a key/value model of the metadata dict. -/
namespace Psi.Stages
variable {α β ρ χ μ : Type}

/-- the block with its true first-sample index `s0 / n` (exact when `n ∣ s0`, see `Emits.divS0`) -/
def PD.divS0 (n : Nat) (b : PD β ρ χ μ) : PD β ρ χ μ := { b with s0 := b.s0 / (n : Int) }

theorem Contig.divS0 (n : Nat) (hn : 0 < n) : ∀ (bs : List (PD β ρ χ μ)) (k : Int), Contig (n : Int) (n * k) bs →
    Contig 1 k (bs.map (PD.divS0 n)) ∧ ∀ b ∈ bs, b.s0 = (n : Int) * (b.s0 / (n : Int)) := by
  intro bs
  induction bs with
  | nil => intro k _; exact ⟨trivial, by simp⟩
  | cons b bs ih =>
    intro k h
    obtain ⟨h1, h2⟩ := h
    have hn0 : (n : Int) ≠ 0 := by omega
    have hdiv : b.s0 / (n : Int) = k := by rw [h1]; exact Int.mul_ediv_cancel_left k hn0
    have e : (n : Int) * k + (n : Int) * (b.len : Nat) = (n : Int) * (k + 1 * ((PD.divS0 n b).len : Nat)) := by
      simp only [PD.divS0, PD.len, Int.one_mul]; rw [Int.mul_add]
    rw [e] at h2
    obtain ⟨ih1, ih2⟩ := ih _ h2
    refine ⟨⟨hdiv, ih1⟩, ?_⟩
    intro c hc
    rcases List.mem_cons.mp hc with rfl | hc
    · rw [hdiv]; exact h1
    · exact ih2 c hc

theorem Emits.divS0 {bs : List (PD β ρ χ μ)} {x : List β} {n : Nat} (hn : 0 < n) {k : Int} {a : Ann ρ χ μ}
    (h : Emits bs x (n : Int) (n * k) a) :
    Emits (bs.map (PD.divS0 n)) x 1 k a ∧ ∀ b ∈ bs, b.s0 = (n : Int) * (b.s0 / (n : Int)) := by
  obtain ⟨hc1, hc2⟩ := Contig.divS0 n hn bs k h.contig
  refine ⟨⟨?_, hc1, ?_⟩, hc2⟩
  · rw [← h.data]; simp [outData, PD.divS0, List.map_map, Function.comp_def]
  · intro b hb
    simp only [List.mem_map] at hb
    obtain ⟨c, hc, rfl⟩ := hb
    exact h.ann c hc

/-- `Contig` for rational `s0`: `(s0, length)` pairs -/
def RContig : Rat → List (Rat × Nat) → Prop
  | _, [] => True
  | t, (s, l) :: rest => s = t ∧ RContig (t + (l : Rat)) rest

theorem rat_step (t : Int) (n l : Nat) (hn : 0 < n) :
    (((t + (n : Int) * (l : Nat) : Int) : Rat)) / (n : Rat) = (t : Rat) / n + (l : Rat) := by
  have h : (n : Rat) ≠ 0 := by
    intro h
    have : ((n : Rat)) = ((0 : Nat) : Rat) := by simpa using h
    have := Rat.natCast_inj.mp this; omega
  rw [Rat.intCast_add, Rat.intCast_mul, Rat.div_def, Rat.div_def, Rat.add_mul, Rat.intCast_natCast,
    Rat.intCast_natCast]
  congr 1
  rw [Rat.mul_comm, ← Rat.mul_assoc, Rat.inv_mul_cancel _ h, Rat.one_mul]

/-- no divisibility needed -/
theorem Contig.rat (n : Nat) (hn : 0 < n) : ∀ (bs : List (PD β ρ χ μ)) (t : Int), Contig (n : Int) t bs →
    RContig ((t : Rat) / n) (bs.map fun b => ((b.s0 : Rat) / n, b.len)) := by
  intro bs
  induction bs with
  | nil => intro t _; trivial
  | cons b bs ih =>
    intro t h
    obtain ⟨h1, h2⟩ := h
    refine ⟨by rw [h1], ?_⟩
    have := ih _ h2
    rw [rat_step t n b.len hn] at this
    exact this

/-- `m[key] = v` on a dict modelled as a partial function -/
def setKey {κ ν : Type} [DecidableEq κ] (key : κ) (v : ν) (m : κ → Option ν) : κ → Option ν :=
  fun k => if k = key then some v else m k

theorem setKey_same {κ ν : Type} [DecidableEq κ] (key : κ) (v : ν) (m : κ → Option ν) : setKey key v m key = some v := by
  simp [setKey]

theorem setKey_other {κ ν : Type} [DecidableEq κ] (key : κ) (v : ν) (m : κ → Option ν) (k : κ) (h : k ≠ key) :
    setKey key v m k = m k := by
  simp [setKey, h]

end Psi.Stages

import PsiModel.StagesExt2
import PsiProofs.Helper.C12_Run
/-! Run lemmas for `capture` (EXT12). -/
namespace Psi.StagesExt2
open Psi.Stages Psi.StagesExt
variable {α β ρ χ μ τ κ ι : Type}

/-- the inputs of `capture` when nothing is in the queue: annotated chunks, `popleft()` raising `IndexError` -/
def quiet (ys : List (PD α ρ χ μ)) : List (Option (Cmd τ) × Arr α ρ χ μ) := ys.map fun y => (none, .pd y)

/-- the queue entry `cmd` is taken when the first chunk arrives, nothing afterwards -/
def segment (cmd : Cmd τ) : List (PD α ρ χ μ) → List (Option (Cmd τ) × Arr α ρ χ μ)
  | [] => []
  | y :: ys => (some cmd, .pd y) :: quiet ys

def capAnn (addCap : Option τ → μ → μ) (t : Option τ) (ann : Ann ρ χ μ) : Ann ρ χ μ :=
  { ann with metadata := addCap t ann.metadata }

def dataBlocks (bs : List (PD α ρ χ μ)) : List (Sig (Arr α ρ χ μ)) := bs.map fun b => .data (.pd b)

variable (addCap : Option τ → μ → μ)

theorem core_start (st : CapSt τ) (t : τ) (r : Int) (d : Arr α ρ χ μ) :
    captureCore addCap st (some (.start t r), d)
      = (match captureCore addCap { s0 := st.s0, tStart := some t, sNext := some r } (none, d) with
         | .ok (o, s') => .ok (.restart :: o, s')
         | .error e => .error e) := by
  unfold captureCore
  simp only
  split
  · cases d <;> simp
  · simp

theorem core_stop (st : CapSt τ) (d : Arr α ρ χ μ) :
    captureCore addCap st (some .stop, d)
      = .ok ([], { s0 := st.s0 + d.data.length, tStart := st.tStart, sNext := none }) := by
  unfold captureCore
  simp

/-- no request that can still fire: none in force, or its start sample went by (`r < s0`) -/
theorem quiet_silent : ∀ (ys : List (PD α ρ χ μ)) (o : Nat) (t : Option τ) (sn : Option Int),
    (∀ r, sn = some r → r < (o : Int)) →
    run (captureCore addCap) { s0 := o, tStart := t, sNext := sn } (quiet ys)
      = .ok ([], { s0 := o + (outData ys).length, tStart := t, sNext := sn }) := by
  intro ys
  induction ys with
  | nil => intro _ _ _ _; rfl
  | cons y ys ih =>
    intro o t sn hsn
    have hstep : captureCore addCap { s0 := o, tStart := t, sNext := sn } (none, Arr.pd y)
        = .ok ([], { s0 := o + y.data.length, tStart := t, sNext := sn }) := by
      cases sn with
      | none => rfl
      | some r =>
        have hn : ¬ ((o : Int) ≤ r ∧ r - (o : Int) < (y.data.length : Int)) := fun h => by
          have := hsn r rfl; omega
        simp only [captureCore, Arr.data, hn, if_false]
    rw [quiet, List.map_cons, run_cons hstep, ← quiet, ih _ t sn (fun r h => by have := hsn r h; omega), outData_cons,
      List.length_append, Nat.add_assoc]
    rfl

/-- one chunk while a request is in force whose start sample is `k` samples ahead; afterwards it is `k - len` ahead
(`0`: everything is forwarded) -/
theorem core_active (t : Option τ) (o k : Nat) (y : PD α ρ χ μ) :
    captureCore addCap { s0 := o, tStart := t, sNext := some ((o : Int) + k) } (none, .pd y)
      = .ok (dataBlocks (if k < y.data.length then
                [{ data := y.data.drop k, s0 := y.s0 + k, ann := capAnn addCap t y.ann }] else []),
             { s0 := o + y.data.length, tStart := t,
               sNext := some (((o + y.data.length : Nat) : Int) + ((k - y.data.length : Nat) : Int)) }) := by
  have h1 : (o : Int) + k - o = k := by rw [Int.add_comm, Int.add_sub_cancel]
  have h2 : (o : Int) ≤ o + k := Int.le_add_of_nonneg_right (Int.natCast_nonneg k)
  simp only [captureCore, Arr.data, h1, h2, true_and, Int.toNat_natCast, Int.ofNat_lt]
  by_cases hk : k < y.data.length
  · have hnext : (o : Int) + (k : Int) + ((y.data.length - k : Nat) : Int)
        = ((o + y.data.length : Nat) : Int) + ((k - y.data.length : Nat) : Int) := by omega
    rw [if_pos hk, if_pos hk, hnext]; rfl
  · have hnext : (o : Int) + (k : Int) = ((o + y.data.length : Nat) : Int) + ((k - y.data.length : Nat) : Int) := by
      omega
    rw [if_neg hk, if_neg hk, hnext]; rfl

theorem quiet_active (ann : Ann ρ χ μ) (t : Option τ) :
    ∀ (cs : List (List α)) (o k : Nat) (s : Int),
    ∃ bs st', run (captureCore addCap) { s0 := o, tStart := t, sNext := some ((o : Int) + k) } (quiet (stream ann s cs))
        = .ok (dataBlocks bs, st')
      ∧ Emits bs (cs.flatten.drop k) 1 (s + k) (capAnn addCap t ann)
      ∧ (∀ b ∈ bs, b.data ≠ []) := by
  intro cs
  induction cs with
  | nil =>
    intro o k s
    exact ⟨[], _, rfl, by rw [List.flatten_nil, List.drop_nil]; exact Emits.nil _ _ _,
      fun _ h => (List.not_mem_nil h).elim⟩
  | cons c cs ih =>
    intro o k s
    obtain ⟨bs, st', hrun, hem, hne⟩ := ih (o + c.length) (k - c.length) (s + c.length)
    refine ⟨(if k < c.length then [⟨c.drop k, s + k, capAnn addCap t ann⟩] else []) ++ bs, st', ?_, ?_, ?_⟩
    · rw [stream_cons, quiet, List.map_cons, run_cons (core_active addCap t o k _)]
      rw [quiet] at hrun
      rw [hrun]
      simp only [Except.map, dataBlocks, List.map_append]
    · rw [List.flatten_cons, List.drop_append]
      refine Emits.append (Emits.ite (u := 1) ⟨c.drop k, s + k, capAnn addCap t ann⟩ _ fun hk => ?_) ?_
      · exact List.drop_eq_nil_of_le (Nat.le_of_not_lt hk)
      · have e : s + (k : Int) + 1 * ((c.drop k).length : Nat) = s + (c.length : Int) + ((k - c.length : Nat) : Int) := by
          rw [List.length_drop]; omega
        rw [e]; exact hem
    · intro b hb
      rcases List.mem_append.mp hb with hb | hb
      · by_cases hk : k < c.length
        · rw [if_pos hk, List.mem_singleton] at hb
          subst hb
          exact fun h => Nat.not_le_of_lt hk (List.drop_eq_nil_iff.mp h)
        · rw [if_neg hk] at hb; nomatch hb
      · exact hne b hb

theorem core_counts (st st' : CapSt τ) (inp : Option (Cmd τ) × Arr α ρ χ μ)
    (o : List (Sig (Arr α ρ χ μ))) (h : captureCore addCap st inp = .ok (o, st')) :
    st'.s0 = st.s0 + inp.2.data.length := by
  unfold captureCore at h
  simp only at h
  split at h
  · simp only [Except.ok.injEq, Prod.mk.injEq] at h; rw [← h.2]
  · split at h
    · split at h
      · simp at h
      · simp only [Except.ok.injEq, Prod.mk.injEq] at h; rw [← h.2]
    · simp only [Except.ok.injEq, Prod.mk.injEq] at h; rw [← h.2]

theorem run_counts : ∀ (h : List (Option (Cmd τ) × Arr α ρ χ μ)) (st st' : CapSt τ)
    (o : List (Sig (Arr α ρ χ μ))), run (captureCore addCap) st h = .ok (o, st') →
    st'.s0 = st.s0 + ((h.map fun i => i.2.data).flatten).length := by
  intro h
  induction h with
  | nil => intro _ _ _ hr; cases hr; rfl
  | cons i h ih =>
    intro st st' _ hr
    obtain ⟨o1, s1, o2, h1, h2, -⟩ := run_cons_ok hr
    rw [ih s1 st' o2 h2, core_counts addCap st s1 i o1 h1, List.map_cons, List.flatten_cons,
      List.length_append, Nat.add_assoc]

end Psi.StagesExt2

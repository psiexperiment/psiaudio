import PsiModel.StagesExt
import PsiProofs.Helper.C12_Run
/-! `average` (EXT12): the repaired stage and the stage as it is. -/
namespace Psi.StagesExt
open Psi.Stages
variable {α β ε ρ χ μ σ I O B E : Type}

theorem avgLoop_spec (mean : List α → β) (n : Nat) (hn : 0 < n) : ∀ (fuel : Nat) (l : List α), l.length ≤ fuel →
    avgLoop mean n fuel l = ((blocksOf n l).map mean, l.drop (l.length / n * n)) := by
  intro fuel
  induction fuel with
  | zero =>
    intro l h
    have hl : l.length < n := Nat.lt_of_le_of_lt h hn
    rw [avgLoop, blocksOf_short n l hl, Nat.div_eq_of_lt hl, Nat.zero_mul, List.drop_zero]; rfl
  | succ fuel ih =>
    intro l h
    rw [avgLoop]
    by_cases hge : n ≤ l.length
    · rw [if_pos hge, ih (l.drop n) (by rw [List.length_drop]; omega), blocksOf_step n hn l hge, List.length_drop,
        List.drop_drop, div_mul_step n l.length hn hge, Nat.add_comm n]
      rfl
    · have hlt : l.length < n := Nat.lt_of_not_le hge
      rw [if_neg hge, blocksOf_short n l hlt, Nat.div_eq_of_lt hlt, Nat.zero_mul, List.drop_zero]; rfl

theorem averageFixed_run (mean : List α → β) (n : Nat) (hn : 0 < n) : ∀ (cs : List (List α)) (r : List α),
    r.length < n →
    outs (run (averageFixedStep mean n) (some r) cs) = .ok ((blocksOf n (r ++ cs.flatten)).map mean) := by
  intro cs
  induction cs with
  | nil => intro r hr; rw [List.flatten_nil, List.append_nil, blocksOf_short n r hr]; rfl
  | cons c cs ih =>
    intro r hr
    have hstep : averageFixedStep mean n (some r) c
        = .ok ((blocksOf n (r ++ c)).map mean, some ((r ++ c).drop ((r ++ c).length / n * n))) := by
      simp only [averageFixedStep, if_neg (Nat.pos_iff_ne_zero.mp hn)]
      rw [avgLoop_spec mean n hn _ _ (Nat.le_refl _)]
    rw [outs_cons hstep, ih _ (drop_complete_lt n hn _), List.flatten_cons,
      ← List.append_assoc, blocksOf_append n hn cs.flatten (r ++ c), List.map_append]
    rfl

theorem averageFixedStep_none (mean : List α → β) (n : Nat) (d : List α) :
    averageFixedStep mean n none d = averageFixedStep mean n (some []) d := by
  simp [averageFixedStep]

theorem averageStep_none (n : Nat) (d : List α) :
    (averageStep n none d : Except XErr (List β × _)) = averageStep n (some []) d := by
  simp [averageStep]

theorem averageStep_short (n : Nat) (r c : List α) (h : r.length + c.length < n) :
    averageStep (β := β) n (some r) c = .ok ([], some (r ++ c)) := by
  simp only [averageStep]; rw [if_neg (by rw [List.length_append]; omega)]

/-- `average` as it is: the send that completes the first group dies with `IndexError` -/
theorem averageAsIs_run (n : Nat) : ∀ (cs : List (List α)) (r : List α), r.length < n →
    outs (run (averageStep (β := β) n) (some r) cs)
      = if r.length + cs.flatten.length < n then .ok [] else .error .indexError := by
  intro cs
  induction cs with
  | nil => intro r h; rw [List.flatten_nil, List.length_nil, Nat.add_zero, if_pos h]; rfl
  | cons c cs ih =>
    intro r h
    rw [List.flatten_cons, List.length_append, ← Nat.add_assoc]
    rcases Nat.lt_or_ge (r.length + c.length) n with hlt | hge
    · rw [outs_cons (averageStep_short n r c hlt), ih (r ++ c) (by rw [List.length_append]; exact hlt),
        List.length_append]
      split <;> rfl
    · have hstep : averageStep (β := β) n (some r) c = .error .indexError := by
        simp only [averageStep]; rw [if_pos (by rw [List.length_append]; exact hge)]
      rw [run_cons_error hstep, if_neg (by omega)]; rfl

end Psi.StagesExt

import PsiModel.Stages
/-! Lists as the stages of C12 use them: strides and complete blocks of a stream cut into chunks (`stride`, `blocksOf`),
positions along it, successive differences, Mealy runs and the assumption `LfilterIs` about the filter kernel. -/
namespace Psi.Stages
variable {α β S : Type}

theorem blocks_induction (n : Nat) (hn : 0 < n) (P : List α → Prop)
    (short : ∀ l, l.length < n → P l) (step : ∀ l, n ≤ l.length → P (l.drop n) → P l) : ∀ l, P l := by
  have : ∀ f (l : List α), l.length ≤ f → P l := by
    intro f
    induction f with
    | zero => intro l h; exact short l (by omega)
    | succ f ih =>
      intro l h
      rcases Nat.lt_or_ge l.length n with hlt | hge
      · exact short l hlt
      · exact step l hge (ih (l.drop n) (by simp; omega))
  exact fun l => this l.length l (Nat.le_refl _)

theorem strideAux_eq_drop (q : Nat) : ∀ (k : Nat) (l : List α), strideAux q k l = stride q (l.drop k)
  | 0, _ => rfl
  | _ + 1, [] => rfl
  | k + 1, _ :: l => strideAux_eq_drop q k l

theorem stride_cons (p : Nat) (x : α) (l : List α) : stride (p + 1) (x :: l) = x :: stride (p + 1) (l.drop p) :=
  congrArg (x :: ·) (strideAux_eq_drop (p + 1) p l)

theorem stride_append_of_dvd (q : Nat) (hq : 0 < q) (a b : List α) (h : q ∣ a.length) :
    stride q (a ++ b) = stride q a ++ stride q b := by
  induction a using blocks_induction q hq with
  | short a hlt =>
    have : a = [] := List.eq_nil_of_length_eq_zero (Nat.eq_zero_of_dvd_of_lt h hlt)
    subst this; rfl
  | step a hge ih =>
    obtain ⟨p, rfl⟩ : ∃ p, q = p + 1 := ⟨q - 1, (Nat.succ_pred_eq_of_pos hq).symm⟩
    cases a with
    | nil => exact absurd hge (Nat.not_le_of_lt hq)
    | cons x a =>
      -- the first of every `p + 1` is kept, the selection goes on after the `p` that follow it
      have hp : p ≤ a.length := Nat.le_of_succ_le_succ hge
      have hdvd : p + 1 ∣ (a.drop p).length := by
        rw [List.length_drop, ← Nat.add_sub_add_right a.length 1 p]
        exact Nat.dvd_sub h (Nat.dvd_refl _)
      rw [List.cons_append, stride_cons, stride_cons, List.drop_append_of_le_length hp, List.cons_append]
      exact congrArg (x :: ·) (ih hdvd)

/-! the complete multiples of `q` in a list: `l.take (l.length / q * q)` -/

theorem length_drop_complete (q : Nat) (l : List α) : (l.drop (l.length / q * q)).length = l.length % q := by
  have := Nat.div_add_mod l.length q
  rw [Nat.mul_comm] at this
  rw [List.length_drop]; omega

theorem drop_complete_lt (q : Nat) (hq : 0 < q) (l : List α) : (l.drop (l.length / q * q)).length < q := by
  rw [length_drop_complete]; exact Nat.mod_lt _ hq

theorem length_take_complete (q : Nat) (l : List α) : (l.take (l.length / q * q)).length = l.length / q * q := by
  rw [List.length_take, Nat.min_eq_left (Nat.div_mul_le_self _ _)]

/-! positions along a stream: a buffer `b` that starts at sample `t`, then the chunk `c` -/

theorem next_pos (t : Int) (b c : List α) : t + (b.length : Int) + (c.length : Int) = t + ((b ++ c).length : Nat) := by
  rw [List.length_append, Int.natCast_add, Int.add_assoc]

theorem rest_pos (t : Int) (w : List α) (q : Nat) :
    t + ((w.length / q * q : Nat) : Int) + ((w.drop (w.length / q * q)).length : Nat) = t + (w.length : Nat) := by
  have := Nat.div_mul_le_self w.length q
  rw [List.length_drop]; omega

theorem complete_append_length (q : Nat) (hq : 0 < q) (m x : List α) :
    (m ++ x).length / q * q
      = m.length / q * q + (m.drop (m.length / q * q) ++ x).length / q * q := by
  have hle := Nat.div_mul_le_self m.length q
  have hlen : (m ++ x).length = (m.drop (m.length / q * q) ++ x).length + m.length / q * q := by
    simp only [List.length_append, List.length_drop]; omega
  rw [hlen, Nat.add_mul_div_right _ _ hq, Nat.add_mul, Nat.add_comm]

theorem take_complete_append (q : Nat) (hq : 0 < q) (m x : List α) :
    (m ++ x).take ((m ++ x).length / q * q)
      = m.take (m.length / q * q)
        ++ (m.drop (m.length / q * q) ++ x).take ((m.drop (m.length / q * q) ++ x).length / q * q) := by
  have hle := Nat.div_mul_le_self m.length q
  rw [complete_append_length q hq, List.take_add, List.take_append_of_le_length hle,
    List.drop_append_of_le_length hle]

theorem drop_complete_append (q : Nat) (hq : 0 < q) (m x : List α) :
    (m ++ x).drop ((m ++ x).length / q * q)
      = (m.drop (m.length / q * q) ++ x).drop ((m.drop (m.length / q * q) ++ x).length / q * q) := by
  have hle := Nat.div_mul_le_self m.length q
  rw [complete_append_length q hq, ← List.drop_drop, List.drop_append_of_le_length hle]

/-- the split used by `downsample` / `decimate` -/
theorem stride_complete_append (q : Nat) (hq : 0 < q) (m x : List α) :
    stride q ((m ++ x).take ((m ++ x).length / q * q))
      = stride q (m.take (m.length / q * q))
        ++ stride q ((m.drop (m.length / q * q) ++ x).take ((m.drop (m.length / q * q) ++ x).length / q * q)) := by
  rw [take_complete_append q hq, stride_append_of_dvd q hq _ _ ⟨m.length / q, by rw [length_take_complete, Nat.mul_comm]⟩]

theorem Mealy.run_append (m : Mealy α β S) (s : S) (a b : List α) :
    m.run s (a ++ b) = ((m.run s a).1 ++ (m.run (m.run s a).2 b).1, (m.run (m.run s a).2 b).2) := by
  induction a generalizing s with
  | nil => simp [Mealy.run]
  | cons x a ih => simp [Mealy.run, ih]

theorem Mealy.run_length (m : Mealy α β S) (s : S) (a : List α) : (m.run s a).1.length = a.length := by
  induction a generalizing s with
  | nil => simp [Mealy.run]
  | cons x a ih => simp [Mealy.run, ih]

/-- The kernel assumption on `scipy.signal.lfilter` with carried `zi`: on non-empty input it is the per-sample state
machine `m`; on empty input it returns no samples and an arbitrary final state (SciPy 1.18 returns uninitialised memory
there). -/
def LfilterIs (lf : S → List α → List β × S) (m : Mealy α β S) : Prop :=
  (∀ z x, x ≠ [] → lf z x = m.run z x) ∧ ∀ z, (lf z []).1 = []

/-- with the guard of the stages (`if y.shape[-1] > 0: zo = zf`) the garbage state is never used -/
theorem lfGuard_eq {lf : S → List α → List β × S} {m : Mealy α β S} (h : LfilterIs lf m) (z : S) (y : List α) :
    lfGuard lf z y = m.run z y := by
  cases y with
  | nil => simp [lfGuard, h.2 z, Mealy.run]
  | cons a l => simp [lfGuard, h.1 z (a :: l) (by simp)]

theorem drop_length_cons (a : α) (c : List α) : (a :: c).drop c.length = [c.getLastD a] := by
  induction c generalizing a with
  | nil => rfl
  | cons b c ih => rw [List.getLastD_cons, List.length_cons, List.drop_succ_cons, ih]

theorem diffs_append (d : α → α → β) (a : α) (c r : List α) :
    diffs d (a :: (c ++ r)) = diffs d (a :: c) ++ diffs d (c.getLastD a :: r) := by
  induction c generalizing a with
  | nil => rfl
  | cons b c ih => rw [List.getLastD_cons, List.cons_append, diffs, diffs, ih, List.cons_append]

theorem diffs_length (d : α → α → β) (a : α) (c : List α) : (diffs d (a :: c)).length = c.length := by
  induction c generalizing a with
  | nil => simp [diffs]
  | cons b c ih => simp [diffs, ih]

/-- consecutive complete blocks of `n` (fuel-free form of the model's `chunksOf`) -/
def blocksOf (n : Nat) (l : List α) : List (List α) := chunksOf n l.length l

theorem chunksOf_short (n f : Nat) (l : List α) (h : l.length < n) : chunksOf n f l = [] := by
  cases f with
  | zero => rfl
  | succ f => rw [chunksOf, if_neg (Nat.not_le_of_lt h)]

theorem chunksOf_fuel (n : Nat) (hn : 0 < n) (l : List α) : ∀ f, l.length ≤ f →
    chunksOf n f l = blocksOf n l ∧ (n ≤ l.length → chunksOf n f l = l.take n :: blocksOf n (l.drop n)) := by
  induction l using blocks_induction n hn with
  | short l hlt =>
    intro f _
    exact ⟨by rw [blocksOf, chunksOf_short n f l hlt, chunksOf_short n _ l hlt], fun h => absurd h (Nat.not_le_of_lt hlt)⟩
  | step l hge ih =>
    have cut : ∀ f, l.length ≤ f → chunksOf n f l = l.take n :: blocksOf n (l.drop n) := by
      intro f hf
      obtain ⟨f', rfl⟩ : ∃ f', f = f' + 1 := ⟨f - 1, by omega⟩
      rw [chunksOf, if_pos hge, (ih f' (by rw [List.length_drop]; omega)).1]
    intro f hf
    exact ⟨(cut f hf).trans (cut _ (Nat.le_refl _)).symm, fun _ => cut f hf⟩

theorem blocksOf_step (n : Nat) (hn : 0 < n) (l : List α) (h : n ≤ l.length) :
    blocksOf n l = l.take n :: blocksOf n (l.drop n) :=
  (chunksOf_fuel n hn l _ (Nat.le_refl _)).2 h

theorem blocksOf_short (n : Nat) (l : List α) (h : l.length < n) : blocksOf n l = [] :=
  chunksOf_short n _ l h

theorem div_mul_step (n m : Nat) (hn : 0 < n) (h : n ≤ m) : m / n * n = n + (m - n) / n * n := by
  rw [Nat.div_eq_sub_div hn h, Nat.add_mul]; omega

theorem blocksOf_append (n : Nat) (hn : 0 < n) (y : List α) (m : List α) :
    blocksOf n (m ++ y) = blocksOf n m ++ blocksOf n (m.drop (m.length / n * n) ++ y) := by
  induction m using blocks_induction n hn with
  | short m hlt => simp [blocksOf_short n m hlt, Nat.div_eq_of_lt hlt]
  | step m hge ih =>
    rw [blocksOf_step n hn (m ++ y) (by simp; omega), blocksOf_step n hn m hge]
    rw [List.take_append_of_le_length hge, List.drop_append_of_le_length hge, ih, List.drop_drop,
      List.length_drop, div_mul_step n m.length hn hge]
    simp

theorem blocksOf_flatten (n : Nat) (hn : 0 < n) (l : List α) :
    (blocksOf n l).flatten = l.take (l.length / n * n) := by
  induction l using blocks_induction n hn with
  | short l hlt => simp [blocksOf_short n l hlt, Nat.div_eq_of_lt hlt]
  | step l hge ih =>
    rw [blocksOf_step n hn l hge, List.flatten_cons, ih, List.length_drop, div_mul_step n l.length hn hge]
    rw [List.take_add]

theorem blocksOf_length_eq (n : Nat) (hn : 0 < n) (l : List α) : ∀ b ∈ blocksOf n l, b.length = n := by
  induction l using blocks_induction n hn with
  | short l hlt => simp [blocksOf_short n l hlt]
  | step l hge ih =>
    rw [blocksOf_step n hn l hge]
    intro b hb
    rcases List.mem_cons.mp hb with rfl | hb
    · simp; omega
    · exact ih b hb

theorem blocksOf_count (n : Nat) (hn : 0 < n) (l : List α) : (blocksOf n l).length = l.length / n := by
  induction l using blocks_induction n hn with
  | short l hlt => simp [blocksOf_short n l hlt, Nat.div_eq_of_lt hlt]
  | step l hge ih =>
    rw [blocksOf_step n hn l hge, List.length_cons, ih, List.length_drop, Nat.div_eq_sub_div hn hge]

theorem blocksOf_take (n : Nat) (hn : 0 < n) (l : List α) :
    blocksOf n (l.take (l.length / n * n)) = blocksOf n l := by
  have h := blocksOf_append n hn (l.drop (l.length / n * n)) (l.take (l.length / n * n))
  rw [List.take_append_drop, length_take_complete, Nat.mul_div_cancel _ hn,
    List.drop_eq_nil_of_le (Nat.le_of_eq (length_take_complete n l)), List.nil_append,
    blocksOf_short n _ (drop_complete_lt n hn l), List.append_nil] at h
  exact h.symm

/-- what `rms` reshapes -/
theorem chunksOf_take_complete (n : Nat) (hn : 0 < n) (m : List α) :
    chunksOf n m.length (m.take (m.length / n * n)) = blocksOf n m := by
  rw [(chunksOf_fuel n hn _ m.length (by rw [List.length_take]; exact Nat.min_le_right _ _)).1]
  exact blocksOf_take n hn m

end Psi.Stages

import PsiProofs.Helper.C16_DftThms
/-!
The windowed tone law for every cosine-sum window (periodic form, as `scipy.signal.get_window` returns it with
its default `fftbins=True`), and that `psd` does not depend on the trailing samples it trims.

`cosWin a (M+1) n j = Σ_{m ≤ M} a_m cos(m·fac_j)`, `fac_j = -π + 2πj/n`, i.e. `Σ_m (-1)^m a_m cos(2π m j/n)`, with
mean `a_0`.  Multiplying any signal by `cos(2π m j/n)` replaces DFT bin `k` by the mean of its bins `k + m` and
`k - m`, so the window convolves the spectrum with its coefficient list.  For a tone of `k`
whole cycles the neighbouring bins are empty, and only the `m = 0` term is left: the coefficient values do not
matter except `a_0 ≠ 0`.
-/
open Finset

namespace Psi.Db

theorem cos_nat_mul_cosFac (n j m : ℕ) :
    Real.cos ((m : ℝ) * cosFac n j) = (-1) ^ m * Real.cos (2 * Real.pi * m * j / n) := by
  have e : (m : ℝ) * (j * ((Real.pi - -Real.pi) / n) + -Real.pi) = 2 * Real.pi * m * j / n - m * Real.pi := by
    ring
  rw [cosFac, nat_real, nat_real, pi_real, e, Real.cos_sub_nat_mul_pi]

theorem cosWin_eq (a : ℕ → ℝ) (T n j : ℕ) :
    cosWin a T n j = ∑ m ∈ range T, (-1) ^ m * a m * Real.cos (2 * Real.pi * m * j / n) := by
  simp only [cosWin, sumTo_eq, cos_real, nat_real, cos_nat_mul_cosFac]
  exact Finset.sum_congr rfl fun m _ => by ring

theorem cosWin_mean (a : ℕ → ℝ) (M n : ℕ) (hM : M < n) : meanTo n (cosWin a (M + 1) n) = a 0 := by
  have hn' := cast_ne_zero (Nat.zero_lt_of_lt hM)
  rw [meanTo_eq]
  simp_rw [cosWin_eq]
  rw [Finset.sum_comm]
  have h : ∀ m ∈ range (M + 1),
      ∑ j ∈ range n, (-1) ^ m * a m * Real.cos (2 * Real.pi * m * j / n)
        = if m = 0 then (-1) ^ m * a m * n else 0 := by
    intro m hm
    have hm' : m < M + 1 := Finset.mem_range.1 hm
    have h := C16.sum_cos_sub n m 0 (by omega) (Nat.zero_lt_of_lt hM)
    rw [Nat.cast_zero, sub_zero, Int.cast_natCast] at h
    rw [← Finset.mul_sum, h, mul_ite, mul_zero]
  rw [Finset.sum_congr rfl h, Finset.sum_ite_eq' (range (M + 1)) 0, if_pos (Finset.mem_range.2 M.succ_pos),
    pow_zero, one_mul, mul_div_assoc, div_self hn', mul_one]

theorem toC_dftBin_sum (n T : ℕ) (f : ℕ → ℕ → ℝ) (k : ℕ) :
    toC (dftBin n (fun j => ∑ m ∈ range T, f m j) k) = ∑ m ∈ range T, toC (dftBin n (f m) k) := by
  simp only [toC_dftBin]
  rw [Finset.sum_comm]
  refine Finset.sum_congr rfl fun j _ => ?_
  rw [Complex.ofReal_sum, Finset.sum_mul]

theorem toC_dftBin_smul (n : ℕ) (c : ℝ) (s : ℕ → ℝ) (k : ℕ) :
    toC (dftBin n (fun j => c * s j) k) = (c : ℂ) * toC (dftBin n s k) := by
  simp only [toC_dftBin, Finset.mul_sum]
  refine Finset.sum_congr rfl fun j _ => ?_
  rw [Complex.ofReal_mul, mul_assoc]

theorem toC_dftBin_cos_mul (n m k : ℕ) (hm : m ≤ k) (s : ℕ → ℝ) :
    toC (dftBin n (fun j => Real.cos (2 * Real.pi * m * j / n) * s j) k)
      = (toC (dftBin n s (k + m)) + toC (dftBin n s (k - m))) / 2 := by
  have e1 : -(k : ℤ) - m = -((k + m : ℕ) : ℤ) := by rw [Nat.cast_add, neg_add']
  have e2 : -(k : ℤ) + m = -((k - m : ℕ) : ℤ) := by rw [Nat.cast_sub hm, neg_sub, neg_add_eq_sub]
  rw [toC_dftBin, toC_dftBin, toC_dftBin, ← Finset.sum_add_distrib, Finset.sum_div]
  refine Finset.sum_congr rfl fun j _ => ?_
  have h := C16.cos_mul_chi n m (-(k : ℤ)) j 0
  rw [add_zero, Complex.ofReal_zero, zero_mul, neg_zero, Complex.exp_zero, one_mul, one_mul,
    Int.cast_natCast, e1, e2] at h
  rw [Complex.ofReal_mul, mul_right_comm, h]
  ring

theorem toC_dftBin_cosWin (a : ℕ → ℝ) (M n k : ℕ) (s : ℕ → ℝ) (hM : M < n) (hk : M ≤ k) :
    toC (dftBin n (applyWindow (meanTo n (cosWin a (M + 1) n)) (cosWin a (M + 1) n) s) k)
      = ∑ m ∈ range (M + 1), (((-1) ^ m * a m / a 0 : ℝ) : ℂ)
          * ((toC (dftBin n s (k + m)) + toC (dftBin n s (k - m))) / 2) := by
  have e : ∀ j, applyWindow (meanTo n (cosWin a (M + 1) n)) (cosWin a (M + 1) n) s j
      = ∑ m ∈ range (M + 1), ((-1) ^ m * a m / a 0) * (Real.cos (2 * Real.pi * m * j / n) * s j) := by
    intro j
    rw [applyWindow, cosWin_mean a M n hM, cosWin_eq, Finset.sum_div, Finset.sum_mul]
    exact Finset.sum_congr rfl fun m _ => by ring
  rw [dftBin_congr n _ _ k fun j _ => e j, toC_dftBin_sum]
  refine Finset.sum_congr rfl fun m hm => ?_
  rw [toC_dftBin_smul, toC_dftBin_cos_mul n m k (by have := Finset.mem_range.1 hm; omega)]

/-- The bins `k ± m`, `0 < m ≤ M`, of the tone are empty, so only the `m = 0` term is left. -/
theorem dftBin_cosWin_tone (a : ℕ → ℝ) (M n k : ℕ) (A p : ℝ) (ha : a 0 ≠ 0) (hk : M < k)
    (hkn : 2 * (k + M) < n) :
    dftBin n (applyWindow (meanTo n (cosWin a (M + 1) n)) (cosWin a (M + 1) n) (toneSig n k A p)) k
      = dftBin n (toneSig n k A p) k := by
  obtain ⟨hk0, hkn'⟩ := tone_bin_of_window hk hkn
  apply toC_inj
  rw [toC_dftBin_cosWin a M n k _ (by omega) hk.le, Finset.sum_eq_single 0]
  · rw [pow_zero, one_mul, div_self ha, Complex.ofReal_one, one_mul, Nat.add_zero, Nat.sub_zero,
      add_self_div_two]
  · intro m hm h0
    have hm' : m < M + 1 := Finset.mem_range.1 hm
    have hm0 : 0 < m := Nat.pos_of_ne_zero h0
    rw [toC_dftBin_tone_other n k (k + m) A p hk0 hkn' (by omega) (Nat.lt_add_of_pos_right hm0).ne',
      toC_dftBin_tone_other n k (k - m) A p hk0 hkn'
        ((Nat.mul_le_mul_left 2 (Nat.sub_le k m)).trans hkn'.le) (Nat.sub_lt hk0 hm0).ne,
      add_zero, zero_div, mul_zero]
  · intro h
    exact absurd (Finset.mem_range.2 M.succ_pos) h

theorem toneConvW_cosWin_tone_eq (a : ℕ → ℝ) (M n k : ℕ) (A p fs : ℝ) (hfs : fs ≠ 0) (ha : a 0 ≠ 0)
    (hk : M < k) (hkn : 2 * (k + M) < n) :
    toneConvW n (cosWin a (M + 1) n) (toneSig n k A p) fs (k * fs / n)
      = toneConv n (toneSig n k A p) fs (k * fs / n) := by
  apply toC_inj
  rw [toneConvW, toC_toneConv n k _ fs hfs, toC_toneConv n k _ fs hfs, dftBin_cosWin_tone a M n k A p ha hk hkn]

theorem CosWindow.coef_zero_ne (w : CosWindow) : (w.coef 0 : ℝ) ≠ 0 := by
  cases w <;> simp only [CosWindow.coef, genHammingCoef, nat_real] <;> norm_num

theorem CosWindow.window_eq (w : CosWindow) (n : ℕ) :
    (w.window n : ℕ → ℝ) = cosWin w.coef ((w.terms - 1) + 1) n := by
  cases w <;> rfl

theorem cosWin_two (a : ℕ → ℝ) (n j : ℕ) :
    cosWin a 2 n j = a 0 - a 1 * Real.cos (2 * Real.pi * j / n) := by
  rw [cosWin_eq, Finset.sum_range_succ, Finset.sum_range_one]
  simp only [pow_zero, pow_one, Nat.cast_zero, Nat.cast_one, mul_zero, zero_mul, zero_div,
    Real.cos_zero, one_mul, mul_one]
  ring

theorem cosWin_three (a : ℕ → ℝ) (n j : ℕ) :
    cosWin a 3 n j = a 0 - a 1 * Real.cos (2 * Real.pi * j / n)
      + a 2 * Real.cos (2 * Real.pi * 2 * j / n) := by
  rw [cosWin_eq, Finset.sum_range_succ, Finset.sum_range_succ, Finset.sum_range_one]
  simp only [pow_zero, pow_one, Nat.cast_zero, Nat.cast_one, mul_zero, zero_mul, zero_div,
    Real.cos_zero, one_mul, mul_one, Nat.cast_ofNat]
  ring

/-- `get_window('hann', n)` -/
noncomputable def hannW (n : ℕ) : ℕ → ℝ := fun j => 1 / 2 - 1 / 2 * Real.cos (2 * Real.pi * j / n)

theorem hann_window_eq (n j : ℕ) : (CosWindow.hann.window n : ℕ → ℝ) j = hannW n j := by
  show cosWin _ 2 n j = 1 / 2 - 1 / 2 * Real.cos (2 * Real.pi * j / n)
  rw [cosWin_two]
  simp only [CosWindow.coef, genHammingCoef, nat_real, Nat.cast_ofNat, Nat.cast_one]
  rw [show (5 : ℝ) / 10 = 1 / 2 by norm_num, show (1 : ℝ) - 1 / 2 = 1 / 2 by norm_num]

theorem hamming_window_eq (n j : ℕ) :
    (CosWindow.hamming.window n : ℕ → ℝ) j = 54 / 100 - 46 / 100 * Real.cos (2 * Real.pi * j / n) := by
  show cosWin _ 2 n j = _
  rw [cosWin_two]
  simp only [CosWindow.coef, genHammingCoef, nat_real, Nat.cast_ofNat, Nat.cast_one]
  rw [show (1 : ℝ) - 54 / 100 = 46 / 100 by norm_num]

theorem blackman_window_eq (n j : ℕ) :
    (CosWindow.blackman.window n : ℕ → ℝ) j
      = 42 / 100 - 50 / 100 * Real.cos (2 * Real.pi * j / n)
        + 8 / 100 * Real.cos (2 * Real.pi * 2 * j / n) := by
  show cosWin _ 3 n j = _
  rw [cosWin_three]
  simp only [CosWindow.coef, nat_real, Nat.cast_ofNat]

theorem trimLen_eq (N avg : ℕ) : trimLen N avg = N - N % avg := by
  have := Nat.div_add_mod N avg
  rw [trimLen, Nat.mul_comm]
  omega

theorem row_index_lt (N avg r j : ℕ) (hr : r < avg) (hj : j < trimLen N avg / avg) :
    r * (trimLen N avg / avg) + j < trimLen N avg := by
  have h1 : trimLen N avg / avg * avg = trimLen N avg := by
    rw [trimLen, Nat.mul_div_cancel _ (by omega : 0 < avg)]
  calc r * (trimLen N avg / avg) + j < (r + 1) * (trimLen N avg / avg) := by rw [Nat.succ_mul]; omega
    _ ≤ avg * (trimLen N avg / avg) := Nat.mul_le_mul_right _ hr
    _ = trimLen N avg := by rw [Nat.mul_comm, h1]

theorem psd_congr (N avg : ℕ) (s s' : ℕ → ℝ) (k : ℕ) (h : ∀ i, i < trimLen N avg → s i = s' i) :
    psd N avg s k = psd N avg s' k :=
  meanTo_congr avg _ _ fun r hr => by
    rw [csd_congr _ _ (fun j => s' (r * (trimLen N avg / avg) + j)) k
      fun j hj => h _ (row_index_lt N avg r j hr hj)]

theorem psdW_congr (N avg : ℕ) (w s s' : ℕ → ℝ) (k : ℕ) (h : ∀ i, i < trimLen N avg → s i = s' i) :
    psdW N avg w s k = psdW N avg w s' k :=
  meanTo_congr avg _ _ fun r hr => by
    rw [csdW_congr _ w _ (fun j => s' (r * (trimLen N avg / avg) + j)) k
      fun j hj => h _ (row_index_lt N avg r j hr hj)]

end Psi.Db

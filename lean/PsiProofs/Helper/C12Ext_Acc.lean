import PsiProofs.Helper.C12_Run
/-! `accumulate` (EXT12). -/
namespace Psi.StagesExt
open Psi.Stages
variable {α β ρ χ μ σ I O B E : Type}

/-- what `target` received, the `Ellipsis` signals left out -/
def emitted : List (AccEv O) → List O
  | [] => []
  | .emit o :: l => o :: emitted l
  | _ :: l => emitted l

/-- what `status_cb` received -/
def statuses : List (AccEv O) → List Nat
  | [] => []
  | .status k :: l => k :: statuses l
  | _ :: l => statuses l

def restarts : List (AccEv O) → Nat
  | [] => 0
  | .restart :: l => restarts l + 1
  | _ :: l => restarts l

theorem emitted_append (a b : List (AccEv O)) : emitted (a ++ b) = emitted a ++ emitted b := by
  induction a with
  | nil => rfl
  | cons x a ih => cases x <;> simp [emitted, ih]

theorem statuses_append (a b : List (AccEv O)) : statuses (a ++ b) = statuses a ++ statuses b := by
  induction a with
  | nil => rfl
  | cons x a ih => cases x <;> simp [statuses, ih]

theorem restarts_append (a b : List (AccEv O)) : restarts (a ++ b) = restarts a + restarts b := by
  induction a with
  | nil => simp [restarts]
  | cons x a ih => cases x <;> simp [restarts, ih] <;> omega

def statusSpec (n len m : Nat) : List Nat := (List.range m).map (fun i => (len + i + 1) % n)

theorem statusSpec_succ (n len m : Nat) :
    statusSpec n len (m + 1) = (len + 1) % n :: statusSpec n (len + 1) m := by
  simp only [statusSpec, List.range_succ_eq_map, List.map_cons, List.map_map]
  congr 1
  apply List.map_congr_left
  intro i _
  simp only [Function.comp]
  congr 1
  omega

theorem statusSpec_mod (n len m : Nat) : statusSpec n (len % n) m = statusSpec n len m := by
  simp only [statusSpec]
  apply List.map_congr_left
  intro i _
  rw [Nat.add_assoc, Nat.mod_add_mod, Nat.add_assoc]

theorem accumulateStep_data (n : Nat) (hn : 0 < n) (nx : B → B) (join : List B → Except XErr O) (j : List B → O)
    (cb : Bool) (st : List B) (b : B) (hst : st.length < n)
    (hj : ∀ g ∈ blocksOf n (st ++ [nx b]), join g = .ok (j g)) :
    ∃ evs, accumulateStep n nx join cb st (.data b)
        = .ok (evs, (st ++ [nx b]).drop ((st ++ [nx b]).length / n * n))
      ∧ emitted evs = (blocksOf n (st ++ [nx b])).map j
      ∧ statuses evs = (if cb then [(st.length + 1) % n] else []) ∧ restarts evs = 0 := by
  have hlen : (st ++ [nx b]).length = st.length + 1 := List.length_append
  rcases Nat.lt_or_ge (st.length + 1) n with hlt | hge
  · refine ⟨if cb then [.status (st.length + 1)] else [], ?_, ?_, ?_, ?_⟩
    · simp only [accumulateStep, hlen]
      rw [if_neg (Nat.ne_of_lt hlt), Nat.div_eq_of_lt hlt, Nat.zero_mul, List.drop_zero]
    · rw [blocksOf_short n _ (by rw [hlen]; exact hlt)]; cases cb <;> rfl
    · rw [Nat.mod_eq_of_lt hlt]; cases cb <;> rfl
    · cases cb <;> rfl
  · have hfull : st.length + 1 = n := by omega
    have hblocks : blocksOf n (st ++ [nx b]) = [st ++ [nx b]] := by
      rw [blocksOf_step n hn _ (by rw [hlen]; exact hge), ← hfull, ← hlen, List.take_length, List.drop_length,
        blocksOf_short _ [] (by rw [hlen]; exact Nat.succ_pos _)]
    refine ⟨.emit (j (st ++ [nx b])) :: (if cb then [.status 0] else []), ?_, ?_, ?_, ?_⟩
    · simp only [accumulateStep, hlen]
      rw [if_pos hfull, hj _ (by rw [hblocks]; exact List.mem_singleton_self _), hfull, Nat.div_self hn, Nat.one_mul,
        ← hfull, ← hlen, List.drop_length]
    · rw [hblocks]; cases cb <;> rfl
    · rw [hfull, Nat.mod_self]; cases cb <;> rfl
    · cases cb <;> rfl

theorem accumulate_run (n : Nat) (hn : 0 < n) (nx : B → B) (join : List B → Except XErr O) (j : List B → O)
    (cb : Bool) : ∀ (bs : List B) (st : List B), st.length < n →
    (∀ g ∈ blocksOf n (st ++ bs.map nx), join g = .ok (j g)) →
    ∃ evs, run (accumulateStep n nx join cb) st (bs.map Sig.data)
        = .ok (evs, (st ++ bs.map nx).drop ((st ++ bs.map nx).length / n * n)) ∧
      emitted evs = (blocksOf n (st ++ bs.map nx)).map j ∧
      statuses evs = (if cb then statusSpec n st.length bs.length else []) ∧
      restarts evs = 0 := by
  intro bs
  induction bs with
  | nil =>
    intro st hst _
    refine ⟨[], ?_, ?_, by cases cb <;> rfl, rfl⟩
    · rw [List.map_nil (f := nx), List.append_nil, Nat.div_eq_of_lt hst, Nat.zero_mul, List.drop_zero]; rfl
    · rw [List.map_nil (f := nx), List.append_nil, blocksOf_short n st hst]; rfl
  | cons b bs ih =>
    intro st hst hj
    rw [List.map_cons (f := nx), List.append_cons] at hj ⊢
    have hsplit := blocksOf_append n hn (bs.map nx) (st ++ [nx b])
    obtain ⟨e1, hs1, hem1, hst1, hr1⟩ := accumulateStep_data n hn nx join j cb st b hst
      fun g hg => hj g (by rw [hsplit]; exact List.mem_append_left _ hg)
    obtain ⟨e2, hs2, hem2, hst2, hr2⟩ := ih _ (drop_complete_lt n hn (st ++ [nx b]))
      fun g hg => hj g (by rw [hsplit]; exact List.mem_append_right _ hg)
    refine ⟨e1 ++ e2, ?_, ?_, ?_, ?_⟩
    · rw [List.map_cons, run_cons hs1, hs2, drop_complete_append n hn (st ++ [nx b]) (bs.map nx)]; rfl
    · rw [emitted_append, hem1, hem2, hsplit, List.map_append]
    · rw [statuses_append, hst1, hst2, length_drop_complete, List.length_append, List.length_singleton,
        statusSpec_mod, List.length_cons, statusSpec_succ]
      cases cb <;> rfl
    · rw [restarts_append, hr1, hr2]

theorem joinTime_stream (ann : Ann ρ χ μ) (g : List (List α)) (s : Int) (hg : g ≠ []) :
    joinTime (stream ann s g) = .ok { data := g.flatten, s0 := s, ann := ann } := by
  have hne : stream ann s g ≠ [] := by
    intro h; have := stream_length ann g s; rw [h] at this; cases g <;> simp_all
  simp [joinTime, (stream_emits ann g s).catAll_ok hne]

/-- what `concat(group, axis=-1)` returns for a group of chunks of the stream -/
def jt (ann : Ann ρ χ μ) (g : List (PD α ρ χ μ)) : PD α ρ χ μ :=
  match g with
  | [] => { data := [], s0 := 0, ann := ann }
  | a :: _ => { data := outData g, s0 := a.s0, ann := ann }

theorem jt_stream (ann : Ann ρ χ μ) (g : List (List α)) (s : Int) (hg : g ≠ []) :
    jt ann (stream ann s g) = { data := g.flatten, s0 := s, ann := ann } := by
  cases g with
  | nil => exact absurd rfl hg
  | cons c g =>
    have := (stream_emits ann (c :: g) s).data
    simp only [stream] at this ⊢
    simp only [jt, this]

theorem joined_groups (ann : Ann ρ χ μ) (n : Nat) (hn : 0 < n) : ∀ (cs : List (List α)) (s : Int),
    (∀ g ∈ blocksOf n (stream ann s cs), joinTime g = .ok (jt ann g))
    ∧ Emits ((blocksOf n (stream ann s cs)).map (jt ann)) (cs.take (cs.length / n * n)).flatten 1 s ann
    ∧ ((blocksOf n (stream ann s cs)).map (jt ann)).map (·.data) = (blocksOf n cs).map List.flatten := by
  intro cs
  induction cs using blocks_induction n hn with
  | short l hlt =>
    intro s
    rw [blocksOf_short n (stream ann s l) (by rw [stream_length]; exact hlt), blocksOf_short n l hlt,
      Nat.div_eq_of_lt hlt, Nat.zero_mul, List.take_zero]
    exact ⟨fun _ h => (List.not_mem_nil h).elim, Emits.nil 1 s ann, rfl⟩
  | step l hge ih =>
    intro s
    have hl : (stream ann s (l.take n)).length = n := by
      rw [stream_length, List.length_take, Nat.min_eq_left hge]
    have e := stream_append ann (l.take n) (l.drop n) s
    rw [List.take_append_drop] at e
    have hne : l.take n ≠ [] := by
      intro h0; have := congrArg List.length h0; rw [List.length_take, List.length_nil] at this; omega
    obtain ⟨ih1, ih2, ih3⟩ := ih (s + (l.take n).flatten.length)
    rw [blocksOf_step n hn (stream ann s l) (by rw [stream_length]; exact hge), e, List.take_left' hl,
      List.drop_left' hl, blocksOf_step n hn l hge,
      List.map_cons, jt_stream ann _ s hne]
    refine ⟨?_, ?_, by rw [List.map_cons, List.map_cons, ih3]⟩
    · intro g hg
      rcases List.mem_cons.mp hg with rfl | hg
      · rw [joinTime_stream ann _ s hne, jt_stream ann _ s hne]
      · exact ih1 g hg
    · refine Emits.cons _ ih2 rfl rfl (by rw [Int.one_mul]; rfl) ?_
      rw [List.length_drop, div_mul_step n l.length hn hge, List.take_add, List.flatten_append]

end Psi.StagesExt

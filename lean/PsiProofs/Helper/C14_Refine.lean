import PsiModel.Buffer
/-!
The simulation relation `Refines` between the ring-buffer state and the logical stream, and its
preservation by `append` and `invalidate_samples` (by `resize`: `refines_resizeE` in `C14.lean`, which
needs `filled_pads`).

Positions are introduced additively (`ilb + m = cap`, `lo + m = |stream|`, `i = lo + d`) and never
by subtraction: `omega` splits cases on every `min`, `toNat` and truncated `-` in its context,
which is slow to check, while sums are rewritten with `Nat.add_assoc` and cancelled.
-/
namespace Psi.Buffer

variable {α : Type}

theorem pyNorm_natCast (n i : Nat) : pyNorm n (i : Int) = min i n := by
  unfold pyNorm
  rw [if_neg (Int.not_lt.2 (Int.natCast_nonneg i)), Int.toNat_natCast]

theorem pySlice_natCast (l : List α) (i j : Nat) (hij : i ≤ j) (hj : j ≤ l.length) :
    pySlice l i j = (l.take j).drop i := by
  unfold pySlice
  rw [pyNorm_natCast, pyNorm_natCast, Nat.min_eq_left hj, Nat.min_eq_left (Nat.le_trans hij hj)]

/-- Both branches of `append_data` concatenate and drop the oldest `n` cells; `_ilb` moves left
by `n` and stops at 0. -/
theorem append_eq (s : State α) (xs : List α) (hlen : s.buf.length = s.cap) (hilb : s.ilb ≤ s.cap) :
    append s xs = { s with buf := (s.buf ++ xs).drop xs.length, ilb := s.ilb - xs.length,
                           samples := s.samples + xs.length } := by
  unfold append
  by_cases h : xs.length > s.cap
  · have hle : s.buf.length ≤ xs.length := hlen ▸ Nat.le_of_lt h
    rw [if_pos h, List.drop_append, List.drop_eq_nil_of_le hle, List.nil_append, hlen,
      Nat.sub_eq_zero_of_le (Nat.le_trans hilb (Nat.le_of_lt h))]
  · rw [if_neg h, List.drop_append_of_le_length (hlen ▸ Nat.le_of_not_gt h)]

theorem invalidateIdx_samples (s : State α) (i : Int) : (invalidateIdx s i).samples = s.samples := by
  unfold invalidateIdx
  split <;> rfl

theorem invalidateIdx_of_le (s : State α) (i : Int) (h : i ≤ s.ilb) :
    invalidateIdx s i = { s with buf := List.replicate s.buf.length s.fillv, ilb := s.cap } :=
  if_pos h

/-- `_invalidate(k)` with `k > _ilb` keeps the first `k` cells and shifts them right by
`e = cap - k`. -/
theorem invalidateIdx_natCast_of_lt (s : State α) {k e : Nat} (h : s.ilb < k)
    (he : k + e = s.buf.length) (hlen : s.buf.length = s.cap) :
    invalidateIdx s k = { s with buf := List.replicate e s.nanv ++ s.buf.take k,
                                 ilb := s.ilb + e } := by
  unfold invalidateIdx
  rw [if_neg (Int.not_le.2 (Int.ofNat_lt.2 h))]
  simp only [Int.toNat_natCast]
  rw [← hlen, ← he, Nat.add_sub_cancel_left, ← Nat.add_assoc, Nat.add_right_comm, Nat.add_sub_cancel]

theorem invalidateSamples_of_ge (s : State α) (i : Nat) (h : s.samples ≤ i) :
    invalidateSamples s i = s :=
  if_pos h

theorem invalidateSamples_of_lt (s : State α) (i : Nat) (h : i < s.samples) :
    invalidateSamples s i = { invalidateIdx s (toIndex s i) with samples := i } := by
  unfold invalidateSamples
  rw [if_neg (Nat.not_le.2 h)]
  simp only [invalidateIdx_samples, Nat.sub_sub_self (Nat.le_of_lt h)]

theorem Spec.retain_lo_add (stream : List α) (cap avail : Nat) (h : min cap avail ≤ stream.length) :
    (Spec.retain stream cap avail).lo + min cap avail = stream.length :=
  Nat.sub_add_cancel h

theorem Spec.retain_window (stream : List α) (cap avail : Nat) (h : min cap avail ≤ stream.length) :
    (Spec.retain stream cap avail).hi - (Spec.retain stream cap avail).lo = min cap avail :=
  Nat.sub_sub_self h

theorem Spec.append_stream (sp : Spec α) (xs : List α) : (sp.append xs).stream = sp.stream ++ xs := rfl
theorem Spec.append_cap (sp : Spec α) (xs : List α) : (sp.append xs).cap = sp.cap := rfl

theorem Spec.invalidate_of_ge (sp : Spec α) (i : Nat) (h : sp.stream.length ≤ i) :
    sp.invalidate i = sp :=
  if_pos h

theorem Spec.invalidate_of_lt (sp : Spec α) (i : Nat) (h : i < sp.stream.length) :
    sp.invalidate i = Spec.retain (sp.stream.take i) sp.cap (i - sp.lo) :=
  if_neg (Nat.not_le.2 h)

theorem Spec.resize_stream (sp : Spec α) (c : Nat) : (sp.resize c).stream = sp.stream := rfl
theorem Spec.resize_cap (sp : Spec α) (c : Nat) : (sp.resize c).cap = c := rfl

theorem Spec.slice_add (sp : Spec α) (x k : Nat) : sp.slice x (x + k) = (sp.stream.drop x).take k := by
  unfold Spec.slice
  rw [Nat.add_sub_cancel_left]

theorem Spec.slice_of_le (sp : Spec α) {x y : Nat} (h : y ≤ x) : sp.slice x y = [] := by
  unfold Spec.slice
  rw [Nat.sub_eq_zero_of_le h, List.take_zero]

theorem Spec.slice_to_end (sp : Spec α) (x : Nat) : sp.slice x sp.hi = sp.stream.drop x :=
  List.take_of_length_le (Nat.le_of_eq List.length_drop)

/-- Lists that agree on their last `m₀` cells agree on their last `m ≤ m₀` cells. -/
theorem drop_eq_drop_of_add {l₁ l₂ : List α} {a b a' b' m₀ m : Nat} (h : l₁.drop a = l₂.drop b)
    (h₁ : a + m₀ = l₁.length) (h₂ : b + m₀ = l₂.length) (haa : a ≤ a')
    (h₁' : a' + m = l₁.length) (h₂' : b' + m = l₂.length) : l₁.drop a' = l₂.drop b' := by
  obtain ⟨k, rfl⟩ := Nat.le.dest haa
  obtain rfl : m₀ = k + m := Nat.add_left_cancel (h₁.trans (h₁'.symm.trans (Nat.add_assoc a k m)))
  obtain rfl : b' = b + k :=
    Nat.add_right_cancel (h₂'.trans (h₂.symm.trans (Nat.add_assoc b k m).symm))
  rw [← List.drop_drop, ← List.drop_drop, h]

/-- The storage `s` holds the retained window `[lo, hi)` of the logical stream, right-aligned, with
`ilb` the index of sample `lo`. -/
structure Refines (s : State α) (sp : Spec α) : Prop where
  cap_eq : s.cap = sp.cap
  cap_pos : 0 < s.cap
  len : s.buf.length = s.cap
  ilb_le : s.ilb ≤ s.cap
  samples_eq : s.samples = sp.stream.length
  lo_le : sp.lo ≤ sp.stream.length
  lb_eq : s.samples + s.ilb = sp.lo + s.cap
  win : s.buf.drop s.ilb = sp.stream.drop sp.lo

section
variable {s : State α} {sp : Spec α}

theorem Refines.valid (r : Refines s sp) : ∃ m, s.ilb + m = s.cap ∧ sp.lo + m = sp.stream.length := by
  obtain ⟨m, hm⟩ := Nat.le.dest r.ilb_le
  exact ⟨m, hm, Nat.add_right_cancel (m := s.ilb)
    (by rw [Nat.add_assoc, Nat.add_comm m, hm, ← r.lb_eq, r.samples_eq])⟩

theorem Refines.window_le (r : Refines s sp) : sp.stream.length - sp.lo ≤ sp.cap := by
  obtain ⟨m, hi, hl⟩ := r.valid
  rw [← hl, Nat.add_sub_cancel_left, ← r.cap_eq, ← hi]
  exact Nat.le_add_left m s.ilb

theorem Refines.toIndex_lo_add (r : Refines s sp) (d : Nat) :
    toIndex s ((sp.lo + d : Nat) : Int) = ((s.ilb + d : Nat) : Int) := by
  have := r.lb_eq
  unfold toIndex
  omega

theorem refines_init (cap : Nat) (hc : 0 < cap) (f n : α) :
    Refines (init cap f n) (Spec.init cap) :=
  ⟨rfl, hc, List.length_replicate, Nat.le_refl _, rfl, Nat.le_refl _, rfl,
    List.drop_eq_nil_of_le (Nat.le_of_eq List.length_replicate)⟩

/-- The criterion used for all three operations: the storage, `l` without its first `n₀` cells,
agrees with the stream on a suffix of length `m₀` that starts at or before the new `_ilb` (`haa`).
For an append `l` is the old storage followed by the chunk and `n₀` the chunk's length; otherwise
`n₀ = 0`. -/
theorem refines_retain {s : State α} {l stream : List α} {cap avail n₀ a b m₀ : Nat} (hpos : 0 < s.cap)
    (hcap : s.cap = cap) (hb : s.buf = l.drop n₀) (hl : l.length = cap + n₀)
    (hsam : s.samples = stream.length) (hk : s.ilb + min cap avail = cap)
    (h : l.drop a = stream.drop b) (h₁ : a + m₀ = cap + n₀) (h₂ : b + m₀ = stream.length)
    (haa : a ≤ s.ilb + n₀) : Refines s (Spec.retain stream cap avail) := by
  have hm : a + min cap avail ≤ a + m₀ := by
    generalize min cap avail = m at hk ⊢
    rw [h₁, ← hk, Nat.add_right_comm]; exact Nat.add_le_add_right haa _
  have hlo := Spec.retain_lo_add stream cap avail
    (Nat.le_trans (Nat.le_of_add_le_add_left hm) (Nat.le.intro ((Nat.add_comm _ _).trans h₂)))
  subst hcap
  refine ⟨rfl, hpos, ?_, Nat.le.intro hk, hsam, Nat.le.intro hlo, ?_, ?_⟩
  · rw [hb, List.length_drop, hl, Nat.add_sub_cancel]
  · rw [hsam, ← hlo, Nat.add_assoc, Nat.add_comm (min _ _), hk]
  · rw [hb, List.drop_drop]
    exact drop_eq_drop_of_add h (h₁.trans hl.symm) h₂ ((Nat.add_comm _ _).symm ▸ haa)
      (by rw [hl, Nat.add_assoc, hk, Nat.add_comm]) hlo

theorem sub_add_min_add (a m n : Nat) : a - n + min (a + m) (m + n) = a + m := by
  rw [Nat.add_comm a m, Nat.add_min_add_left, Nat.add_left_comm, Nat.sub_add_min_cancel]

theorem refines_append (r : Refines s sp) (xs : List α) :
    Refines (append s xs) (sp.append xs) := by
  obtain ⟨m, hi, hl⟩ := r.valid
  have hcap := r.cap_eq
  rw [append_eq s xs r.len r.ilb_le, Spec.append,
    show sp.hi - sp.lo = m from Nat.sub_eq_of_eq_add' hl.symm]
  exact refines_retain (l := s.buf ++ xs) (a := s.ilb) (b := sp.lo) (m₀ := m + xs.length)
    r.cap_pos hcap rfl (by rw [List.length_append, r.len, hcap])
    (by rw [List.length_append, ← r.samples_eq])
    (by rw [← hcap, ← hi]; exact sub_add_min_add s.ilb m xs.length)
    (by rw [List.drop_append_of_le_length (r.len ▸ r.ilb_le),
      List.drop_append_of_le_length r.lo_le, r.win])
    (by rw [← Nat.add_assoc, hi, hcap]) (by rw [← Nat.add_assoc, hl, List.length_append])
    (Nat.le_add_of_sub_le (Nat.le_refl _))

theorem refines_invalidate (r : Refines s sp) (i : Nat) :
    Refines (invalidateSamples s i) (sp.invalidate i) := by
  rcases Nat.lt_or_ge i s.samples with hlt | hge
  · obtain ⟨m, hi, hl⟩ := r.valid
    have hlt' : i < sp.stream.length := r.samples_eq ▸ hlt
    have htake : (sp.stream.take i).length = i := List.length_take_of_le (Nat.le_of_lt hlt')
    have hcap := r.cap_eq
    have hlen := r.len
    rw [invalidateSamples_of_lt s i hlt, Spec.invalidate_of_lt sp i hlt']
    rcases Nat.lt_or_ge sp.lo i with hin | hout
    · -- strictly inside the window: `i = lo + d`, `hi = i + e`.  The surviving `d` cells are
      -- shifted to the right end, behind `e` cells of `nanv`.
      obtain ⟨d, rfl⟩ := Nat.le.dest (Nat.le_of_lt hin)
      obtain ⟨e, he⟩ := Nat.le.dest (Nat.le_of_lt hlt')
      obtain rfl : m = d + e := Nat.add_left_cancel (hl.trans (he.symm.trans (Nat.add_assoc _ _ _)))
      have hc : s.ilb + e + d = sp.cap := by rw [Nat.add_right_comm, Nat.add_assoc, hi, hcap]
      have hke : s.ilb + d + e = s.buf.length := (Nat.add_assoc _ _ _).trans (hi.trans hlen.symm)
      rw [r.toIndex_lo_add d, invalidateIdx_natCast_of_lt s
        (Nat.lt_add_of_pos_right (Nat.pos_of_lt_add_right hin)) hke hlen, Nat.add_sub_cancel_left]
      exact refines_retain (l := List.replicate e s.nanv ++ s.buf.take (s.ilb + d)) (n₀ := 0)
        (a := e + s.ilb) (b := sp.lo) (m₀ := d) r.cap_pos hcap rfl
        (by rw [List.length_append, List.length_replicate, List.length_take,
          Nat.min_eq_left (Nat.le.intro hke), Nat.add_comm, Nat.add_right_comm]; exact hc)
        htake.symm
        (show s.ilb + e + min sp.cap d = sp.cap by
          rw [Nat.min_eq_right (hc ▸ Nat.le_add_left d _)]; exact hc)
        (by rw [← List.drop_drop, List.drop_left' List.length_replicate, List.drop_take,
          List.drop_take, Nat.add_sub_cancel_left, Nat.add_sub_cancel_left, r.win])
        (by rw [Nat.add_comm e]; exact hc) htake.symm (Nat.le_of_eq (Nat.add_comm _ _))
    · -- at or before the lower bound: everything is dropped
      rw [invalidateIdx_of_le s _ (by have := r.lb_eq; unfold toIndex; omega),
        Nat.sub_eq_zero_of_le hout]
      have hl' : (List.replicate s.buf.length s.fillv).length = sp.cap :=
        List.length_replicate.trans (hlen.trans hcap)
      exact refines_retain (l := List.replicate s.buf.length s.fillv) (n₀ := 0) (a := sp.cap)
        (b := i) (m₀ := 0) r.cap_pos hcap rfl hl' htake.symm
        (by rw [Nat.min_zero]; exact hcap)
        ((List.drop_eq_nil_of_le (Nat.le_of_eq hl')).trans
          (List.drop_eq_nil_of_le (Nat.le_of_eq htake)).symm)
        rfl htake.symm (Nat.le_of_eq hcap.symm)
  · rw [invalidateSamples_of_ge s i hge, Spec.invalidate_of_ge sp i (r.samples_eq ▸ hge)]
    exact r

end

end Psi.Buffer

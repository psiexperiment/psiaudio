import PsiProofs.Helper.C03_Fifo
import PsiProofs.Helper.C03_Interleaved
import PsiProofs.Helper.C03_Random
import PsiProofs.Helper.C03_Blocked
import PsiProofs.Helper.C03_Grouped
import PsiProofs.C02
/-! From a loaded queue, any number of ticks keeps the invariant of its policy and never raises;
any chunking of requests is that many ticks (C02). -/
namespace Psi.Queue

/-- The oracle streams hold enough entries for `N` samples (a sample starts at most one trial, a trial
uses at most one draw / one shuffle) and every shuffle is a permutation of all stimulus indices —
what `np.random.randint` / `RandomState.shuffle(arange(n))` deliver. Vacuous for the other policies. -/
structure OracleOK (N : Nat) (s : QState) : Prop where
  draws : s.kind = .random → N ≤ s.draws.length
  perms : s.kind = .blockedRandom →
    N ≤ s.perms.length ∧ ∀ p ∈ s.perms, p.Perm (List.range s.data.length)

theorem popAll_ticks {ns : List Nat} {s : QState} (hw : WF s) (hpos : ∀ n ∈ ns, 0 < n) (hne : ns ≠ []) :
    popAll ns s = runTicks ns.sum s := by
  rw [popAll_eq_popBuffer_sum hw hpos hne]
  apply popBuffer_refines hw
  cases ns with
  | nil => exact absurd rfl hne
  | cons m ms => have := hpos m (by simp); simp; omega

theorem popAll_ran {P : QState → Prop} {ns : List Nat} {s s' : QState} {out : List Cell} (hw : WF s)
    (hpos : ∀ n ∈ ns, 0 < n) (hne : ns ≠ [])
    (hrun : ∃ cs s', runTicks ns.sum s = .ok (cs, s') ∧ WF s' ∧ P s')
    (h : popAll ns s = .ok (out, s')) : P s' := by
  obtain ⟨cs, s2, h2, _, hp⟩ := hrun
  rw [popAll_ticks hw hpos hne, h2] at h
  simp only [Except.ok.injEq, Prod.mk.injEq] at h
  exact h.2 ▸ hp

abbrev reqAt (s : QState) : Nat → Int := fun k => trialsOf s k

theorem run_fifo (N : Nat) {s : QState} (h : Loaded s) (hk : s.kind = .fifo) :
    ∃ cs s', runTicks N s = .ok (cs, s') ∧ WF s' ∧ FifoPick s.data.length (reqAt s) (view s') :=
  run_inv' FifoPick_step N h.wf (FifoPick_init h hk)

theorem run_rr (N : Nat) {s : QState} (h : Loaded s) (hk : s.kind = .interleaved) (hkeep : s.keep = true) :
    ∃ cs s', runTicks N s = .ok (cs, s') ∧ WF s' ∧ RRInv s.data.length (reqAt s) (view s') :=
  run_inv' RRInv_step N h.wf (RRInv_init h hk hkeep)

theorem run_skip (N : Nat) {s : QState} (h : Loaded s) (hk : s.kind = .interleaved) (hkeep : s.keep = false) :
    ∃ cs s', runTicks N s = .ok (cs, s') ∧ WF s' ∧ SkipInv s.data.length (reqAt s) (view s') :=
  run_inv' SkipInv_step N h.wf (SkipInv_init h hk hkeep)

theorem run_grouped (N : Nat) {s : QState} (h : Loaded s) (hk : s.kind = .grouped) :
    ∃ cs s', runTicks N s = .ok (cs, s') ∧ WF s' ∧ GroupInv s.data.length (reqAt s) s.gsize (view s') :=
  run_inv' GroupInv_step N h.wf (GroupInv_init h hk)

theorem run_random (N : Nat) {s : QState} (h : Loaded s) (hk : s.kind = .random) (hN : N ≤ s.draws.length) :
    ∃ cs s', runTicks N s = .ok (cs, s') ∧ WF s' ∧ RandInv s.data.length (reqAt s) s.draws 0 (view s') := by
  exact run_inv (I := fun m t => RandInv s.data.length (reqAt s) s.draws m (view t))
    (fun _ _ _ hv h => hv ▸ h) (fun m t => RandInv_mono m (view t)) RandInv_step N 0 h.wf
    (RandInv_init h hk (by rw [Nat.zero_add]; exact hN))

theorem run_blocked (N : Nat) {s : QState} (h : Loaded s) (hk : s.kind = .blockedRandom)
    (hN : N ≤ s.perms.length) (hp : ∀ p ∈ s.perms, p.Perm (List.range s.data.length)) :
    ∃ cs s', runTicks N s = .ok (cs, s') ∧ WF s' ∧ BlockInv s.data.length (reqAt s) s.perms 0 (view s') := by
  exact run_inv (I := fun m t => BlockInv s.data.length (reqAt s) s.perms m (view t))
    (fun _ _ _ hv h => hv ▸ h) (fun m t => BlockInv_mono m (view t)) BlockInv_step N 0 h.wf
    (BlockInv_init h hk hp (by rw [Nat.zero_add]; exact hN))

theorem run_loaded (N : Nat) {s : QState} (h : Loaded s) (ho : OracleOK N s) :
    ∃ cs s', runTicks N s = .ok (cs, s') ∧ WF s' ∧ Base s.data.length (reqAt s) (view s') ∧
      (Done s' → ∀ k, k < s.data.length → trv s'.data k ≤ 0) := by
  cases hk : s.kind with
  | fifo =>
    obtain ⟨cs, s', hr, hw, hi⟩ := run_fifo N h hk
    exact ⟨cs, s', hr, hw, hi.core.base, fun hd => hi.core.done_le ((Done_iff_empty (Or.inl hi.kind)).mp hd)⟩
  | interleaved =>
    cases hkeep : s.keep with
    | true =>
      obtain ⟨cs, s', hr, hw, hi⟩ := run_rr N h hk hkeep
      exact ⟨cs, s', hr, hw, hi.base, fun hd => hi.closed ((Done_iff_complete (Or.inl hi.kind)).mp hd)⟩
    | false =>
      obtain ⟨cs, s', hr, hw, hi⟩ := run_skip N h hk hkeep
      exact ⟨cs, s', hr, hw, hi.base, fun hd => hi.closed ((Done_iff_complete (Or.inl hi.kind)).mp hd)⟩
  | random =>
    obtain ⟨cs, s', hr, hw, hi⟩ := run_random N h hk (ho.draws hk)
    exact ⟨cs, s', hr, hw, hi.core.base,
      fun hd => hi.core.done_le ((Done_iff_empty (Or.inr (Or.inl hi.kind))).mp hd)⟩
  | blockedRandom =>
    obtain ⟨cs, s', hr, hw, hi⟩ := run_blocked N h hk (ho.perms hk).1 (ho.perms hk).2
    exact ⟨cs, s', hr, hw, hi.base, fun hd => hi.closed ((Done_iff_complete (Or.inr hi.kind)).mp hd)⟩
  | grouped =>
    obtain ⟨cs, s', hr, hw, hi⟩ := run_grouped N h hk
    exact ⟨cs, s', hr, hw, hi.base, fun hd => hi.done_le ((Done_iff_empty (Or.inr (Or.inr hi.kind))).mp hd)⟩

def EmptyDone (s : QState) : Prop := s.empty = true → Done s

theorem tick_emptyDone {s s' : QState} {c : Cell} (hi : EmptyDone s) (h : tick s = .ok (c, s')) :
    EmptyDone s' := by
  cases tick_cases h with
  | paused _ _ hs => subst hs; exact hi
  | play src _ _ _ he => cases he; exact hi
  | gap _ _ _ _ hs => subst hs; exact hi
  | dry _ _ _ hk _ hs =>
    subst hs
    intro _
    exact (nextKey_none_iff (dropSrc s)).mp hk
  | start s1 src _ _ _ hn _ _ he =>
    cases he
    intro (hE : s1.empty = true)
    -- `next_trial` does not touch the flag: it was set before, so there was no next key
    obtain ⟨_, _, _, _, _, _, _, _, _, _, _, hemp, _⟩ := nextTrial_obs hn
    rw [hemp] at hE
    rw [nextTrial_none_of ((nextKey_none_iff (dropSrc s)).mpr (hi hE))] at hn
    cases hn

theorem countTrials_zero {s : QState} (h : ∀ k, k < s.data.length → trialsOf s k ≤ 0) :
    countTrials s = 0 := by
  unfold countTrials
  have : ∀ (d : List Entry), (∀ e ∈ d, e.trials ≤ 0) → (d.map (fun e => max e.trials 0)).sum = 0 := by
    intro d
    induction d with
    | nil => intro _; rfl
    | cons a l ih =>
      intro hd
      have h1 := hd a (by simp)
      have h2 := ih (fun e he => hd e (by simp [he]))
      simp only [List.map_cons, List.sum_cons, h2]
      omega
  apply this
  intro e he
  exact of_decide_eq_true (List.all_eq_true.mp ((all_le_iff s.data).mpr h) e he)

end Psi.Queue

import PsiModel.Extract
/-! Helper lemmas for C05: slices of a stream, and the capture coroutine fed with
consecutive slices. -/
namespace Psi.Extract

/-- `stream[a, a+n)` -/
def slice {α} (S : List α) (a n : Nat) : List α := (S.drop a).take n

theorem slice_length {α} (S : List α) (a n : Nat) (h : a + n ≤ S.length) :
    (slice S a n).length = n := by
  rw [slice, List.length_take, List.length_drop]
  exact Nat.min_eq_left (Nat.le_sub_of_add_le' h)

theorem slice_append {α} (S : List α) (a m k : Nat) :
    slice S a m ++ slice S (a + m) k = slice S a (m + k) := by
  simp only [slice]
  rw [List.take_add, List.drop_drop]

theorem slice_drop {α} (S : List α) (T n i : Nat) :
    (slice S T n).drop i = slice S (T + i) (n - i) := by
  simp only [slice]
  rw [List.drop_take, List.drop_drop]

theorem slice_drop_take_le {α} (S : List α) (T n i d : Nat) (h : i + d ≤ n) :
    ((slice S T n).drop i).take d = slice S (T + i) d := by
  rw [slice_drop, slice, slice, List.take_take, Nat.min_eq_left (Nat.le_sub_of_add_le' h)]

/-- Invariant of a suspended capture coroutine for request `r`, with respect to the whole
stream `S` and the position `T` of the next chunk: it holds exactly `S[s, currentS0)`. -/
def CapInv {α} (S : List α) (T : Nat) (c : Capture α) : Prop :=
  ∃ s got : Nat, c.req.s = (s : Int) ∧ got + c.remaining = c.req.len ∧
    c.currentS0 = ((s + got : Nat) : Int) ∧ c.acc.flatten = slice S s got ∧ T ≤ s + got

/-- The epoch the property asks for. -/
def epochOf {α} (S : List α) (r : Request) : Epoch α :=
  { req := r, missed := false, data := slice S r.s.toNat r.len }

theorem capInv_new {α} (S : List α) (T : Nat) (r : Request) (s : Nat) (hs : r.s = (s : Int)) (h : T ≤ s) :
    CapInv S T (Capture.new r : Capture α) := by
  refine ⟨s, 0, hs, ?_, ?_, ?_, ?_⟩ <;> simp [Capture.new, slice, hs]; exact h

/-! `Capture.feed` on a capture that waits for the sample at offset `i` of the chunk (`T + i`
overall), so that the "missed the start" branch of `capture_epoch` is excluded: the chunk ends before
that sample, completes the epoch, or is taken in part — without integers. -/

section
variable {α : Type} (c : Capture α) (T i : Nat) (ch : List α) (hp : c.currentS0 = ((T + i : Nat) : Int))
include hp

theorem feed_not_missed : ¬ c.currentS0 < (T : Int) := by
  rw [hp]; exact Int.not_lt.2 (Int.ofNat_le.2 (Nat.le_add_right T i))

theorem feed_offset : (c.currentS0 - (T : Int)).toNat = i := by
  rw [hp, Int.toNat_sub, Nat.add_sub_cancel_left]

theorem feed_beyond (h : ch.length < i) : c.feed T ch = .more c := by
  have h2 : ¬ c.currentS0 ≤ ((T + ch.length : Nat) : Int) := by
    rw [hp]; exact Int.not_le.2 (Int.ofNat_lt.2 (Nat.add_lt_add_left h T))
  simp only [Capture.feed, feed_not_missed c T i hp, h2, if_false]

theorem feed_last (h : i + c.remaining ≤ ch.length) :
    c.feed T ch = .stop { req := c.req, missed := false,
                          data := c.acc.flatten ++ (ch.drop i).take c.remaining } := by
  have h2 : c.currentS0 ≤ ((T + ch.length : Nat) : Int) := by
    rw [hp]; exact Int.ofNat_le.2 (Nat.add_le_add_left (Nat.le_trans (Nat.le_add_right _ _) h) T)
  have hd : min c.remaining (ch.length - i) = c.remaining := Nat.min_eq_left (Nat.le_sub_of_add_le' h)
  simp only [Capture.feed, feed_not_missed c T i hp, h2, if_false, if_true, feed_offset c T i hp, hd,
    Nat.sub_self, List.flatten_append, List.flatten_cons, List.flatten_nil, List.append_nil]

theorem feed_part (h1 : i ≤ ch.length) (h2 : ch.length < i + c.remaining) :
    c.feed T ch = .more { c with currentS0 := c.currentS0 + ((ch.length - i : Nat) : Int),
                                 remaining := c.remaining - (ch.length - i),
                                 acc := c.acc ++ [ch.drop i] } := by
  have g2 : c.currentS0 ≤ ((T + ch.length : Nat) : Int) := by
    rw [hp]; exact Int.ofNat_le.2 (Nat.add_le_add_left h1 T)
  have hlt : ch.length - i < c.remaining := Nat.sub_lt_left_of_lt_add h1 h2
  have hd : min c.remaining (ch.length - i) = ch.length - i := Nat.min_eq_right (Nat.le_of_lt hlt)
  have hr : ¬ c.remaining - (ch.length - i) = 0 := Nat.sub_ne_zero_of_lt hlt
  have e3 : (ch.drop i).take (ch.length - i) = ch.drop i :=
    List.take_of_length_le (by rw [List.length_drop]; exact Nat.le_refl _)
  simp only [Capture.feed, feed_not_missed c T i hp, g2, if_false, if_true, feed_offset c T i hp, hd, hr, e3]

end

/-- A capture coroutine that holds `stream[s, currentS0)` (`CapInv`) and is sent the next
consecutive chunk either finishes with exactly `stream[s, s+len)` — iff that chunk reaches the
epoch's end — or keeps the invariant. -/
theorem capture_acc_inv {α} (S : List α) (T n : Nat) (ch : List α) (c : Capture α)
    (hch : ch = slice S T n) (hn : ch.length = n) (hc : CapInv S T c) :
    (c.req.s.toNat + c.req.len ≤ T + n → c.feed T ch = .stop (epochOf S c.req)) ∧
    (T + n < c.req.s.toNat + c.req.len →
      ∃ c', c.feed T ch = .more c' ∧ c'.req = c.req ∧ CapInv S (T + n) c') := by
  obtain ⟨s, got, hs, hrem, hcur, hacc, hT⟩ := hc
  have hsn : c.req.s.toNat = s := by rw [hs]; rfl
  -- the capture waits for offset `i` of this chunk
  obtain ⟨i, hi⟩ := Nat.exists_eq_add_of_le hT
  have hend : c.req.s.toNat + c.req.len = T + (i + c.remaining) := by
    rw [hsn, ← hrem, ← Nat.add_assoc, hi, Nat.add_assoc]
  rw [hend, ← hn]
  rw [hi] at hcur
  constructor
  · intro hle
    have h : i + c.remaining ≤ ch.length := Nat.le_of_add_le_add_left hle
    rw [feed_last c T i ch hcur h, hacc, hch, slice_drop_take_le S T n i _ (hn ▸ h), ← hi, slice_append,
      epochOf, hsn, hrem]
  · intro hlt
    have h2 : ch.length < i + c.remaining := Nat.lt_of_add_lt_add_left hlt
    by_cases h1 : i ≤ ch.length
    · have hd : ch.length - i < c.remaining := Nat.sub_lt_left_of_lt_add h1 h2
      refine ⟨_, feed_part c T i ch hcur h1 h2, rfl, s, got + (ch.length - i), hs, ?_, ?_, ?_, ?_⟩
      · show got + (ch.length - i) + (c.remaining - (ch.length - i)) = c.req.len
        rw [Nat.add_assoc, Nat.add_sub_of_le (Nat.le_of_lt hd), hrem]
      · show c.currentS0 + ((ch.length - i : Nat) : Int) = ((s + (got + (ch.length - i)) : Nat) : Int)
        rw [hcur, ← hi, ← Int.natCast_add, Nat.add_assoc]
      · show (c.acc ++ [ch.drop i]).flatten = slice S s (got + (ch.length - i))
        rw [List.flatten_append, List.flatten_cons, List.flatten_nil, List.append_nil, hacc, hch,
          slice_drop, ← hi, slice_append, ← hch, hn]
      · rw [← Nat.add_assoc, hi, Nat.add_assoc, Nat.add_sub_of_le h1]
        exact Nat.le_refl _
    · have h1' : ch.length < i := Nat.lt_of_not_le h1
      exact ⟨c, feed_beyond c T i ch hcur h1', rfl, s, got, hs, hrem, hi ▸ hcur, hacc,
        hi ▸ Nat.add_le_add_left (Nat.le_of_lt h1') T⟩

def Fed.req {α} : Fed α → Request
  | .stop e => e.req
  | .more c => c.req

/-- the coroutine, when it is back at `(yield)` -/
def Fed.more? {α} : Fed α → Option (Capture α)
  | .more c => some c
  | .stop _ => none

/-- the epoch handed to `target`, when the coroutine has ended -/
def Fed.stop? {α} : Fed α → Option (Epoch α)
  | .more _ => none
  | .stop e => some e

theorem Fed.more?_req {α} (f : Fed α) (c : Capture α) (h : f.more? = some c) : c.req = f.req := by
  cases f with
  | stop e => cases h
  | more c' => cases h; rfl

theorem Fed.stop?_req {α} (f : Fed α) (e : Epoch α) (h : f.stop? = some e) : e.req = f.req := by
  cases f with
  | stop e' => cases h; rfl
  | more c => cases h

theorem feed_req {α} (c : Capture α) (T : Nat) (ch : List α) : (c.feed T ch).req = c.req := by
  simp only [Capture.feed, apply_ite Fed.req]
  simp only [Fed.req, ite_self]

theorem replay_req {α} (c : Capture α) (prior : List (Nat × List α)) : (replay c prior).req = c.req := by
  induction prior generalizing c with
  | nil => rfl
  | cons x xs ih =>
    obtain ⟨st, ch⟩ := x
    have h := feed_req c st ch
    rw [replay]
    cases hf : c.feed st ch with
    | stop e => rw [hf] at h; exact h
    | more c' => rw [hf] at h; exact (ih c').trans h

/-- `l` is a list of consecutive slices of `S` covering `[a, b)`, each tagged with its start. -/
def Contig {α} (S : List α) : Nat → List (Nat × List α) → Nat → Prop
  | a, [], b => a = b
  | a, (st, ch) :: rest, b => st = a ∧ ch = slice S a ch.length ∧ Contig S (a + ch.length) rest b

theorem contig_append {α} (S : List α) (a b c : Nat) (l m : List (Nat × List α))
    (h1 : Contig S a l b) (h2 : Contig S b m c) : Contig S a (l ++ m) c := by
  induction l generalizing a with
  | nil => simp only [Contig] at h1; subst h1; simpa using h2
  | cons x xs ih =>
    obtain ⟨st, ch⟩ := x
    simp only [Contig, List.cons_append] at h1 ⊢
    exact ⟨h1.1, h1.2.1, ih _ h1.2.2⟩

theorem contig_le {α} (S : List α) (a b : Nat) (l : List (Nat × List α)) (h : Contig S a l b) : a ≤ b := by
  induction l generalizing a with
  | nil => exact Nat.le_of_eq h
  | cons y ys ih =>
    obtain ⟨st2, ch2⟩ := y
    exact Nat.le_trans (Nat.le_add_right _ _) (ih _ h.2.2)

theorem replay_spec {α} (S : List α) (a b : Nat) (prior : List (Nat × List α)) (c : Capture α)
    (hp : Contig S a prior b) (hc : CapInv S a c) :
    (prior ≠ [] → c.req.s.toNat + c.req.len ≤ b → replay c prior = .stop (epochOf S c.req)) ∧
    (b < c.req.s.toNat + c.req.len → ∃ c', replay c prior = .more c' ∧ c'.req = c.req ∧ CapInv S b c') := by
  induction prior generalizing a c with
  | nil => cases hp; exact ⟨fun hne _ => absurd rfl hne, fun _ => ⟨c, rfl, rfl, hc⟩⟩
  | cons x xs ih =>
    obtain ⟨st, ch⟩ := x
    obtain ⟨rfl, hch, hrest⟩ := hp
    have hfeed := capture_acc_inv S st ch.length ch c hch rfl hc
    by_cases hcase : c.req.s.toNat + c.req.len ≤ st + ch.length
    · simp only [replay, hfeed.1 hcase, implies_true, true_and]
      -- the epoch ends inside this chunk, and every chunk ends at or before `b`
      exact fun hlt => absurd (Nat.le_trans hcase (contig_le S _ b xs hrest)) (Nat.not_le.2 hlt)
    · obtain ⟨c1, hf, hr1, hi1⟩ := hfeed.2 (Nat.lt_of_not_le hcase)
      obtain ⟨i1, i2⟩ := ih (st + ch.length) c1 hrest hi1
      rw [hr1] at i1 i2
      simp only [replay, hf]
      refine ⟨fun _ hle => i1 ?_ hle, i2⟩
      intro hx
      subst hx
      exact hcase (hrest ▸ hle)

end Psi.Extract

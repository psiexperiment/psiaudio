import PsiModel.QueueSpec
/-! Frame lemmas: which fields `nextKey` / `decrementKey` / `nextTrial` / `nextTrialND` touch; well-formedness
`WF`; and the three facts about `nextTrialD dec`, either variant of `next_trial`, that are all the timeline
development needs to know about it. -/
namespace Psi.Queue

/-- split every `match`/`if` in hypothesis `h`, simplify, repeat -/
macro "crack" h:ident : tactic =>
  `(tactic| ((repeat' split at $h:ident) <;> (try simp at $h:ident) <;>
             (repeat' split at $h:ident) <;> (try simp at $h:ident) <;>
             (repeat' split at $h:ident) <;> (try simp at $h:ident)))

theorem nextKey_frame {s s1 : QState} {k : Nat} (h : nextKey s = .ok (some (k, s1))) :
    s1 = { s with cursor := s1.cursor, draws := s1.draws, block := s1.block, perms := s1.perms } := by
  unfold nextKey at h
  dsimp only at h
  repeat' split at h
  all_goals cases h
  all_goals rfl

theorem decrementKey_frame {s s2 : QState} {key : Nat} (h : decrementKey s key = .ok s2) :
    s2 = { s with data := setTrials s.data key (· - 1), ordering := s2.ordering, complete := s2.complete } := by
  unfold decrementKey at h
  split at h
  · cases h
  · dsimp only at h
    split at h <;> split at h
    all_goals cases h
    all_goals rfl

/-- the `Info` record `next_trial` logs -/
def mkInfo (s : QState) (key : Nat) (e : Entry) (d : Int) : Info :=
  { uid := s.added.length, key := key, k := s.samples, dur := e.dur, len := e.len, delay := d }

theorem nextTrial_some {s s' : QState} (h : nextTrial s = .ok (some s')) :
    ∃ key s1 s2 e d, nextKey s = .ok (some (key, s1)) ∧ decrementKey s1 key = .ok s2 ∧
      s2.data[key]? = some e ∧ 0 ≤ d ∧ e.delays[e.dpos % e.delays.length]? = some d ∧
      s' = { s2 with data := s2.data.modify key (fun e => { e with dpos := e.dpos + 1 }),
                     source := some { key := key, off := 0, len := e.len, gen := e.gen },
                     delaySamples := d,
                     generated := s2.generated ++ [mkInfo s2 key e d],
                     added := s2.added ++ [mkInfo s2 key e d] } := by
  unfold nextTrial at h
  split at h
  · cases h
  · cases h
  · rename_i key s1 hk
    split at h
    · cases h
    · split at h
      · cases h
      · rename_i s2 hd
        split at h
        · cases h
        · rename_i e he
          split at h
          · cases h
          · split at h
            · cases h
            · rename_i d hdl
              split at h
              · cases h
              · rename_i hneg
                cases h
                exact ⟨key, s1, s2, e, d, hk, hd, he, Int.not_lt.1 hneg, hdl, rfl⟩

theorem nextTrialND_some {s s' : QState} (h : nextTrialND s = .ok (some s')) :
    ∃ key s1 e d, nextKey s = .ok (some (key, s1)) ∧
      s1.data[key]? = some e ∧ 0 ≤ d ∧ e.delays[e.dpos % e.delays.length]? = some d ∧
      s' = { s1 with data := s1.data.modify key (fun e => { e with dpos := e.dpos + 1 }),
                     source := some { key := key, off := 0, len := e.len, gen := e.gen },
                     delaySamples := d,
                     generated := s1.generated ++ [mkInfo s1 key e d],
                     added := s1.added ++ [mkInfo s1 key e d] } := by
  unfold nextTrialND at h
  split at h
  · cases h
  · cases h
  · rename_i key s1 hk
    split at h
    · cases h
    · rename_i e he
      split at h
      · cases h
      · split at h
        · cases h
        · rename_i d hdl
          split at h
          · cases h
          · rename_i hneg
            cases h
            exact ⟨key, s1, e, d, hk, he, Int.not_lt.1 hneg, hdl, rfl⟩

theorem nextTrial_none {s : QState} (h : nextTrial s = .ok none) : nextKey s = .ok none := by
  unfold nextTrial at h
  crack h
  assumption

theorem nextTrial_none_of {s : QState} (h : nextKey s = .ok none) : nextTrial s = .ok none := by
  unfold nextTrial; rw [h]

theorem nextTrialND_none {s : QState} (h : nextTrialND s = .ok none) : nextKey s = .ok none := by
  unfold nextTrialND at h
  crack h
  assumption

theorem nextTrialND_none_of {s : QState} (h : nextKey s = .ok none) : nextTrialND s = .ok none := by
  unfold nextTrialND; rw [h]

theorem nextTrialD_none_iff {dec : Bool} {s : QState} :
    nextTrialD dec s = .ok none ↔ nextKey s = .ok none := by
  cases dec
  · exact ⟨nextTrialND_none, nextTrialND_none_of⟩
  · exact ⟨nextTrial_none, nextTrial_none_of⟩

theorem nextTrialD_obs {dec : Bool} {s s1 : QState} (h : nextTrialD dec s = .ok (some s1)) :
    ∃ info : Info, ∃ g : Bool, s1.added = s.added ++ [info] ∧ s1.generated = s.generated ++ [info] ∧
      info.k = s.samples ∧ info.uid = s.added.length ∧
      s1.source = some { key := info.key, off := 0, len := info.len, gen := g } ∧
      s1.delaySamples = info.delay ∧ 0 ≤ info.delay ∧ s1.samples = s.samples ∧
      s1.paused = s.paused ∧ s1.empty = s.empty ∧ s1.removed = s.removed ∧ s1.kind = s.kind := by
  cases dec
  · obtain ⟨key, sa, e, d, hk, he, hd0, _, rfl⟩ := nextTrialND_some h
    have f1 := nextKey_frame hk
    refine ⟨mkInfo sa key e d, e.gen, ?_, ?_, ?_, ?_, rfl, rfl, hd0, ?_, ?_, ?_, ?_, ?_⟩ <;>
      simp only [mkInfo] <;> rw [f1]
  · obtain ⟨key, sa, sb, e, d, hk, hd, he, hd0, _, rfl⟩ := nextTrial_some h
    have f1 := nextKey_frame hk
    have f2 := decrementKey_frame hd
    refine ⟨mkInfo sb key e d, e.gen, ?_, ?_, ?_, ?_, rfl, rfl, hd0, ?_, ?_, ?_, ?_, ?_⟩ <;>
      simp only [mkInfo] <;> rw [f2] <;> simp only <;> rw [f1]

theorem nextTrial_obs {s s1 : QState} (h : nextTrial s = .ok (some s1)) :
    ∃ info : Info, ∃ g : Bool, s1.added = s.added ++ [info] ∧ s1.generated = s.generated ++ [info] ∧
      info.k = s.samples ∧ info.uid = s.added.length ∧
      s1.source = some { key := info.key, off := 0, len := info.len, gen := g } ∧
      s1.delaySamples = info.delay ∧ 0 ≤ info.delay ∧ s1.samples = s.samples ∧
      s1.paused = s.paused ∧ s1.empty = s.empty ∧ s1.removed = s.removed ∧ s1.kind = s.kind :=
  nextTrialD_obs (dec := true) h

/-- the policy has no next key (`next_key` raises `QueueEmptyError`) -/
def Done (s : QState) : Prop :=
  match s.kind with
  | .fifo | .random | .grouped => s.ordering = []
  | .interleaved | .blockedRandom => s.complete = true

theorem nextKey_none_iff (s : QState) : nextKey s = .ok none ↔ Done s := by
  unfold nextKey Done
  cases hk : s.kind <;> simp only
  · cases ho : s.ordering <;> simp
  · cases hc : s.complete
    · simp only [Bool.false_eq_true, if_false, iff_false]
      split
      · simp
      · split <;> simp
    · simp
  · by_cases ho : s.ordering.length = 0
    · simp [List.length_eq_zero_iff.mp ho]
    · have : s.ordering ≠ [] := fun h => ho (by simp [h])
      simp only [ho, if_false, this, iff_false]
      split
      · simp
      · split <;> simp
  · cases hc : s.complete
    · simp only [Bool.false_eq_true, if_false, iff_false]
      split
      · simp
      · split
        · simp
        · split <;> simp
    · simp
  · by_cases ho : s.ordering.length = 0
    · simp [List.length_eq_zero_iff.mp ho]
    · have : s.ordering ≠ [] := fun h => ho (by simp [h])
      simp only [ho, if_false, this, iff_false]
      split
      · simp
      · split <;> simp

theorem nextKey_none_indep {s : QState} (b : Bool) (m : Int) (h : nextKey s = .ok none) :
    nextKey { s with empty := b, samples := m } = .ok none :=
  (nextKey_none_iff _).2 ((nextKey_none_iff s).1 h)

structure WF (s : QState) : Prop where
  data : ∀ (i : Nat) (e : Entry), s.data[i]? = some e → 0 < e.len
  src : ∀ src, s.source = some src → 0 < src.len ∧ src.off ≤ src.len ∧ (src.gen = true → src.off < src.len)

theorem modify_len {d : List Entry} {f : Entry → Entry} (key : Nat) (hf : ∀ e, (f e).len = e.len)
    (h : ∀ (i : Nat) (e : Entry), d[i]? = some e → 0 < e.len) :
    ∀ (i : Nat) (e : Entry), (d.modify key f)[i]? = some e → 0 < e.len := by
  intro i e he
  rw [List.getElem?_modify] at he
  obtain ⟨e0, hd, rfl⟩ := Option.map_eq_some_iff.1 he
  have := h i e0 hd
  split
  · rw [hf]; exact this
  · exact this

theorem WF_fresh_source {s : QState} {src : Src} (hdata : ∀ (i : Nat) (e : Entry), s.data[i]? = some e → 0 < e.len)
    (hs : s.source = some src) (hoff : src.off = 0) (hlen : 0 < src.len) : WF s := by
  refine ⟨hdata, fun src' h => ?_⟩
  rw [hs] at h
  cases h
  exact ⟨hlen, hoff ▸ Nat.zero_le _, fun _ => hoff ▸ hlen⟩

theorem nextTrialD_WF {dec : Bool} {s s' : QState} (hw : WF s) (h : nextTrialD dec s = .ok (some s')) :
    WF s' ∧ s'.paused = s.paused ∧ ∃ src, s'.source = some src ∧ src.off = 0 ∧ 0 < src.len := by
  cases dec
  · obtain ⟨key, s1, e, d, hk, he, _, _, rfl⟩ := nextTrialND_some h
    have f1 := nextKey_frame hk
    have hdata : ∀ (i : Nat) (e : Entry), s1.data[i]? = some e → 0 < e.len := by
      rw [f1]; exact hw.data
    have hlen : 0 < e.len := hdata key e he
    exact ⟨WF_fresh_source (modify_len key (fun _ => rfl) hdata) rfl rfl hlen, by simp only; rw [f1],
      _, rfl, rfl, hlen⟩
  · obtain ⟨key, s1, s2, e, d, hk, hd, he, _, _, rfl⟩ := nextTrial_some h
    have f1 := nextKey_frame hk
    have f2 := decrementKey_frame hd
    have hdata : ∀ (i : Nat) (e : Entry), s2.data[i]? = some e → 0 < e.len := by
      rw [f2]; simp only; rw [f1]; exact modify_len key (fun _ => rfl) hw.data
    have hlen : 0 < e.len := hdata key e he
    exact ⟨WF_fresh_source (modify_len key (fun _ => rfl) hdata) rfl rfl hlen,
      by simp only; rw [f2]; simp only; rw [f1], _, rfl, rfl, hlen⟩

theorem nextTrial_WF {s s' : QState} (hw : WF s) (h : nextTrial s = .ok (some s')) :
    WF s' ∧ s'.paused = s.paused ∧ ∃ src, s'.source = some src ∧ src.off = 0 ∧ 0 < src.len :=
  nextTrialD_WF (dec := true) hw h

theorem trialsOf_modify_dpos (s : QState) (d : List Entry) (key k : Nat) :
    trialsOf { s with data := d.modify key (fun e => { e with dpos := e.dpos + 1 }) } k =
      trialsOf { s with data := d } k := by
  simp only [trialsOf, List.getElem?_modify]
  cases d[k]? with
  | none => rfl
  | some e => by_cases hk : key = k <;> simp [hk]

theorem nextTrialND_counters {s s' : QState} (h : nextTrialND s = .ok (some s')) :
    s'.ordering = s.ordering ∧ s'.complete = s.complete ∧ ∀ k, trialsOf s' k = trialsOf s k := by
  obtain ⟨key, s1, e, d, hk, he, _, _, rfl⟩ := nextTrialND_some h
  have f1 := nextKey_frame hk
  refine ⟨by simp only; rw [f1], by simp only; rw [f1], ?_⟩
  intro k
  have := trialsOf_modify_dpos s1 s1.data key k
  simp only [trialsOf] at this ⊢
  rw [this, f1]

end Psi.Queue

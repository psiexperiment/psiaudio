import PsiProofs.Helper.C11_ConcatG
/-! `concat` of arbitrary adjacent pieces of one dimensionality: `np.concatenate` in its simplest form (`joinData`) and the
annotations `PipelineData.__new__` accepts for the joined shape. -/
namespace Psi.PData

theorem blocks_eq (L : Nat) : ∀ (outer : Nat) (d : List Nat),
    blocks L outer d = (List.range outer).map fun i => (d.drop (i * L)).take L
  | 0, _ => rfl
  | k + 1, d => by
    simp only [blocks]
    split
    · rename_i h0; subst h0
      simp [List.replicate_succ, List.range_succ_eq_map, Function.comp_def]
      symm; rw [List.eq_replicate_iff]; simp
    · rw [blocks_eq L k (d.drop L), List.range_succ_eq_map]
      simp only [List.map_cons, Nat.zero_mul, List.drop_zero, List.map_map, Function.comp_def, List.drop_drop]
      congr 1
      apply List.map_congr_left
      intro i _
      rw [Nat.succ_mul, Nat.add_comm]

def blockLen (ax : Nat) (sh : List Nat) : Nat := prod (sh.drop ax)

/-- `np.concatenate`: for every outer index, the blocks of all pieces in turn. -/
def joinData (ax outer : Nat) (arrs : List (List Nat × List Nat)) : List Nat :=
  (List.range outer).flatMap fun i => arrs.flatMap fun p => (p.2.drop (i * blockLen ax p.1)).take (blockLen ax p.1)

theorem npConcat_ok (sh0 d0 : List Nat) (rest : List (List Nat × List Nat)) (k : Nat) (hk : k ≤ sh0.length)
    (hsh : ∀ p ∈ rest, p.1.length = sh0.length ∧ p.1.take (sh0.length - k) = sh0.take (sh0.length - k) ∧
      p.1.drop (sh0.length - k + 1) = sh0.drop (sh0.length - k + 1)) :
    npConcat ((sh0, d0) :: rest) k =
      .ok (sh0.take (sh0.length - k) ++ [(((sh0, d0) :: rest).map fun p => p.1.getD (sh0.length - k) 0).sum] ++
          sh0.drop (sh0.length - k + 1),
        joinData (sh0.length - k) (prod (sh0.take (sh0.length - k))) ((sh0, d0) :: rest)) := by
  have h0 : ¬ sh0.length < k := by omega
  have hall : (((sh0, d0) :: rest).all fun (sh, _) =>
      sh.length = sh0.length && sh.take (sh0.length - k) = sh0.take (sh0.length - k) &&
        sh.drop (sh0.length - k + 1) = sh0.drop (sh0.length - k + 1)) = true := by
    simp only [List.all_cons, decide_true, Bool.and_self, Bool.true_and, List.all_eq_true]
    intro p hp
    obtain ⟨a, b, c⟩ := hsh p hp
    simp [a, b, c]
  simp only [npConcat, h0, ↓reduceIte, hall, Bool.not_true, Bool.false_eq_true, ← List.sum_eq_foldl]
  congr 2
  have := interleave_map ((sh0, d0) :: rest) (List.range (prod (sh0.take (sh0.length - k))))
    (fun p i => (p.2.drop (i * blockLen (sh0.length - k) p.1)).take (blockLen (sh0.length - k) p.1))
  simp only [List.length_range] at this
  simp only [blockLen] at this
  simp only [joinData, blocks_eq, blockLen]
  exact this

theorem shapeM2_eq {sh : List Nat} (h : 2 ≤ sh.length) : shapeM2 sh = sh.getD (sh.length - 2) 0 := by
  rw [shapeM2, List.getD_eq_getElem?_getD, List.getD_eq_getElem?_getD, List.getElem?_reverse' (j := sh.length - 2) (by omega)]

theorem shapeM3_eq {sh : List Nat} (h : 3 ≤ sh.length) : shapeM3 sh = sh.getD (sh.length - 3) 0 := by
  rw [shapeM3, List.getD_eq_getElem?_getD, List.getD_eq_getElem?_getD, List.getElem?_reverse' (j := sh.length - 3) (by omega)]

theorem join_shape (sh : List Nat) (ax m : Nat) (hax : ax < sh.length) :
    (sh.take ax ++ [m] ++ sh.drop (ax + 1)).length = sh.length ∧
    ∀ j < sh.length, (sh.take ax ++ [m] ++ sh.drop (ax + 1)).reverse.getD j 0 =
      if ax + j + 1 = sh.length then m else sh.reverse.getD j 0 := by
  have hset : sh.take ax ++ [m] ++ sh.drop (ax + 1) = sh.set ax m := by
    rw [List.set_eq_take_append_cons_drop, if_pos hax, List.append_assoc]; rfl
  rw [hset]
  refine ⟨List.length_set, fun j hj => ?_⟩
  have hr : ∀ l : List Nat, l.length = sh.length → l.reverse.getD j 0 = l[sh.length - 1 - j]?.getD 0 := fun l hl => by
    rw [List.getD_eq_getElem?_getD, List.getElem?_reverse' (j := sh.length - 1 - j) (by omega)]
  rw [hr _ List.length_set, hr _ rfl, List.getElem?_set]
  by_cases h : ax + j + 1 = sh.length
  · rw [if_pos h, if_pos (by omega), if_pos hax]; rfl
  · rw [if_neg h, if_neg (by omega)]

theorem concat_adjacent_core (dim : Dim) (base : PD) (rest : List PD) (hwf : ∀ b ∈ base :: rest, WF b)
    (hnd : ∀ b ∈ base :: rest, b.ndim = base.ndim) (hk : dim.k ≤ base.ndim) (hj : Joinable dim base rest)
    (hsh : ∀ b ∈ rest, b.shape.take (base.ndim - dim.k) = base.shape.take (base.ndim - dim.k) ∧
      b.shape.drop (base.ndim - dim.k + 1) = base.shape.drop (base.ndim - dim.k + 1)) :
    concat (base :: rest) dim = .ok
      ⟨base.shape.take (base.ndim - dim.k) ++ [((base :: rest).map fun b => b.shape.getD (base.ndim - dim.k) 0).sum] ++
          base.shape.drop (base.ndim - dim.k + 1),
        joinData (base.ndim - dim.k) (prod (base.shape.take (base.ndim - dim.k)))
          ((base :: rest).map fun b => (b.shape, b.data)),
        base.s0, base.fs, joinChan dim base (base :: rest), joinMeta dim base (base :: rest)⟩ := by
  have hnp := npConcat_ok base.shape base.data (rest.map fun b => (b.shape, b.data)) dim.k hk (by
    intro p hp
    simp only [List.mem_map] at hp
    obtain ⟨b, hb, rfl⟩ := hp
    exact ⟨hnd b (by simp [hb]), hsh b hb⟩)
  -- shape and data of `np.concatenate` are left open here, fixed by the goal at `construct_ok`, and compared with `hnp` last
  rw [concat_eval dim base rest base.ndim hwf hnd hk hj _ _ ?hnp]
  have hsumc : 2 ≤ base.ndim → ((base :: rest).map chanList).flatten.length =
      ((base :: rest).map fun b => b.shape.getD (base.ndim - 2) 0).sum := fun h2 => by
    rw [List.length_flatten, List.map_map]
    exact congrArg List.sum (List.map_congr_left fun b hb => by
      rw [← hnd b hb] at h2 ⊢; exact ((hwf b hb).chan_many h2).2.trans (shapeM2_eq h2))
  have hsumm : 3 ≤ base.ndim → ((base :: rest).map metaList).flatten.length =
      ((base :: rest).map fun b => b.shape.getD (base.ndim - 3) 0).sum := fun h3 => by
    rw [List.length_flatten, List.map_map]
    exact congrArg List.sum (List.map_congr_left fun b hb => by
      rw [← hnd b hb] at h3 ⊢; exact ((hwf b hb).meta_many h3).2.trans (shapeM3_eq h3))
  have hb := hwf base (by simp)
  have hk1 : 1 ≤ dim.k := by cases dim <;> simp [Dim.k]
  have hS := fun m => join_shape base.shape (base.ndim - dim.k) m (by simp only [PD.ndim] at hk ⊢; omega)
  -- the label / metadata count `PipelineData.__new__` asks for is the summed length on the joined axis and that of
  -- `base` on any other
  apply construct_ok
  · intro h1
    rw [(hS _).1] at h1
    have h2 : 2 ≤ base.ndim := h1
    rw [shapeM2, (hS _).2 1 h1]
    unfold joinChan
    by_cases hd : dim = .channel
    · subst hd
      rw [if_pos rfl, if_pos (by simp only [PD.ndim, Dim.k] at h2 ⊢; omega)]
      exact ⟨_, rfl, hsumc h2⟩
    · have hne : ¬ (base.ndim - dim.k + 1 + 1 = base.shape.length) := by
        cases dim with
        | channel => exact absurd rfl hd
        | time => simp only [PD.ndim, Dim.k] at hk ⊢; omega
        | epoch => simp only [PD.ndim, Dim.k] at hk ⊢; omega
      rw [if_neg hd, if_neg hne]
      exact ⟨_, hb.chan_many h2⟩
  · intro h2
    rw [(hS _).1] at h2
    have h3 : 3 ≤ base.ndim := h2
    rw [shapeM3, (hS _).2 2 (by omega)]
    unfold joinMeta
    by_cases hd : dim = .epoch
    · subst hd
      rw [if_pos rfl, if_pos (by simp only [PD.ndim, Dim.k] at h3 ⊢; omega)]
      exact ⟨_, rfl, hsumm h3⟩
    · have hne : ¬ (base.ndim - dim.k + 2 + 1 = base.shape.length) := by
        cases dim with
        | epoch => exact absurd rfl hd
        | time => simp only [PD.ndim, Dim.k] at hk ⊢; omega
        | channel => simp only [PD.ndim, Dim.k] at hk ⊢; omega
      rw [if_neg hd, if_neg hne]
      exact ⟨_, hb.meta_many h3⟩
  case hnp => simpa [List.map_cons, List.map_map, Function.comp_def, PD.ndim] using hnp

end Psi.PData

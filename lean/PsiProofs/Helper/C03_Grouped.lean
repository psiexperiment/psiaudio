import PsiProofs.Helper.C03_Policy
/-! Grouped FIFO (and Blocked FIFO = one group): groups of `g` consecutive stimuli are worked off one
after the other; inside a group the cursor advances round-robin over all its members until none of
them has a positive counter. -/
namespace Psi.Queue

theorem take_range' (a n k : Nat) : (List.range' a n).take k = List.range' a (min k n) := by
  induction k generalizing a n with
  | zero => simp
  | succ k ih =>
    cases n with
    | zero => simp
    | succ n =>
      rw [List.range'_succ, List.take_succ_cons, ih, Nat.succ_min_succ, List.range'_succ]

/-- cursor implied by the key log: offset of the last key inside its group, −1 before the first trial -/
def lastMod (g : Nat) (L : List Nat) : Int :=
  match L.getLast? with
  | some k => ((k % g : Nat) : Int)
  | none => -1

theorem lastMod_snoc (g : Nat) (L : List Nat) (k : Nat) : lastMod g (L ++ [k]) = ((k % g : Nat) : Int) := by
  simp [lastMod]

/-- `k` is a legitimate next key of a grouped queue with group size `g` after the trials `P`:
every earlier group is satisfied, the group of `k` is not, and `k` sits one place after the
previous key's offset (cyclically within the group of `k`, which has `min g (n − g·c)` members). -/
def GroupPick (n : Nat) (req : Nat → Int) (g : Nat) (P : List Nat) (k : Nat) : Prop :=
  (∀ k', k' < g * (k / g) → k' < n → req k' ≤ ((P.count k' : Nat) : Int)) ∧
  (∃ k', g * (k / g) ≤ k' ∧ k' < g * (k / g) + g ∧ k' < n ∧ ((P.count k' : Nat) : Int) < req k') ∧
  ((k % g : Nat) : Int) = (lastMod g P + 1) % ((min g (n - g * (k / g)) : Nat) : Int)

theorem GroupPick.group_le {n : Nat} {req : Nat → Int} {g : Nat} {P Q : List Nat} {ki kj : Nat}
    (hPQ : P.Sublist Q) (hi : GroupPick n req g P ki) (hj : GroupPick n req g Q kj) :
    ki / g ≤ kj / g := by
  obtain ⟨hdone, _, _⟩ := hi
  obtain ⟨_, ⟨k', _, h2, h3, h4⟩, _⟩ := hj
  generalize ki / g = a at hdone
  generalize kj / g = b at h2
  apply Classical.byContradiction
  intro hlt
  have hmul := Nat.mul_le_mul_left g (Nat.succ_le_of_lt (Nat.lt_of_not_le hlt))
  rw [Nat.mul_succ] at hmul
  have h5 := hdone k' (Nat.lt_of_lt_of_le h2 hmul) h3
  exact absurd (Int.lt_of_lt_of_le h4 h5) (Int.not_lt.mpr (Int.ofNat_le.mpr (hPQ.count_le k')))

/-- The counters `t` and the log `keys` of a grouped queue whose current group starts at index `a`
(`n` stimuli, group size `g`): everything before `a` is satisfied, the current group is not, later
groups are untouched. -/
structure GroupAt (n g a : Nat) (t : Nat → Int) (keys : List Nat) : Prop where
  before : ∀ k, k < a → k < n → t k ≤ 0
  open_ : a < n → ∃ k, a ≤ k ∧ k < a + g ∧ k < n ∧ 0 < t k
  later : ∀ k, a + g ≤ k → k < n → 0 < t k
  bound : ∀ k ∈ keys, k < a + g

section GroupAt
variable {n g a k : Nat} {t t' : Nat → Int} {keys : List Nat}

theorem dec_le (ht : ∀ k', t' k' = if k' = k then t k' - 1 else t k') (k' : Nat) : t' k' ≤ t k' := by
  rw [ht]; split <;> omega

theorem dec_ne (ht : ∀ k', t' k' = if k' = k then t k' - 1 else t k') {k' : Nat} (hne : k' ≠ k) :
    t' k' = t k' := by
  rw [ht, if_neg hne]

/-- one trial of `k` in the current group satisfied the whole group: the next group is current -/
theorem GroupAt.advance (h : GroupAt n g a t keys) (hg : 1 ≤ g)
    (ht : ∀ k', t' k' = if k' = k then t k' - 1 else t k') (hk : k < a + g)
    (hall : ∀ k', a ≤ k' → k' < a + g → k' < n → t' k' ≤ 0) : GroupAt n g (a + g) t' (keys ++ [k]) := by
  have hle : a + g ≤ a + g + g := Nat.le_add_right _ _
  refine ⟨?_, ?_, ?_, forall_mem_snoc (fun k' h' => Nat.lt_of_lt_of_le (h.bound k' h') hle)
    (Nat.lt_of_lt_of_le hk hle)⟩
  · intro k' h1 h2
    by_cases hlt : k' < a
    · exact Int.le_trans (dec_le ht k') (h.before k' hlt h2)
    · exact hall k' (Nat.le_of_not_lt hlt) h1 h2
  · intro hlt
    refine ⟨a + g, Nat.le_refl _, Nat.lt_add_of_pos_right hg, hlt, ?_⟩
    rw [dec_ne ht (Nat.ne_of_gt hk)]
    exact h.later _ (Nat.le_refl _) hlt
  · intro k' h1 h2
    have h3 : a + g ≤ k' := Nat.le_trans hle h1
    rw [dec_ne ht (Nat.ne_of_gt (Nat.lt_of_lt_of_le hk h3))]
    exact h.later k' h3 h2

/-- one trial of `k` in the current group left some member unsatisfied: the group goes on -/
theorem GroupAt.stay (h : GroupAt n g a t keys)
    (ht : ∀ k', t' k' = if k' = k then t k' - 1 else t k') (hk : k < a + g)
    (hex : ∃ k', a ≤ k' ∧ k' < a + g ∧ k' < n ∧ 0 < t' k') : GroupAt n g a t' (keys ++ [k]) := by
  refine ⟨fun k' h1 h2 => Int.le_trans (dec_le ht k') (h.before k' h1 h2), fun _ => hex, ?_,
    forall_mem_snoc h.bound hk⟩
  intro k' h1 h2
  rw [dec_ne ht (Nat.ne_of_gt (Nat.lt_of_lt_of_le hk h1))]
  exact h.later k' h1 h2

theorem GroupAt.pick {req : Nat → Int} {c o : Nat} (h : GroupAt n g a t keys) (ha : a = g * c)
    (hled : ∀ k, k < n → t k = req k - ((keys.count k : Nat) : Int)) (ho : o < g) (hn : a < n)
    (hoc : (o : Int) = (lastMod g keys + 1) % ((min g (n - a) : Nat) : Int)) :
    GroupPick n req g keys (a + o) := by
  subst ha
  have hdiv : (g * c + o) / g = c := by
    rw [Nat.mul_add_div (Nat.lt_of_le_of_lt (Nat.zero_le o) ho), Nat.div_eq_of_lt ho]; rfl
  have hmod : (g * c + o) % g = o := by rw [Nat.mul_add_mod, Nat.mod_eq_of_lt ho]
  unfold GroupPick
  rw [hdiv, hmod]
  refine ⟨?_, ?_, hoc⟩
  · intro k' h1 h2
    have := h.before k' h1 h2
    rw [hled k' h2] at this
    exact Int.le_of_sub_nonpos this
  · obtain ⟨k', h1, h2, h3, h4⟩ := h.open_ hn
    rw [hled k' h3] at h4
    exact ⟨k', h1, h2, h3, Int.sub_pos.mp h4⟩

end GroupAt

structure GroupInv (n : Nat) (req : Nat → Int) (g : Nat) (v : PView) : Prop where
  base : Base n req v
  kind : v.kind = .grouped
  gs : v.gsize = g
  gpos : 1 ≤ g
  cur : v.cursor = lastMod g v.keys
  grp : ∃ c, v.ordering = List.range' (g * c) (n - g * c) ∧ GroupAt n g (g * c) (trv v.data) v.keys
  order : ∀ j (h : j < v.keys.length), GroupPick n req g (v.keys.take j) v.keys[j]

theorem GroupInv.done_le {n : Nat} {req : Nat → Int} {g : Nat} {v : PView} (hi : GroupInv n req g v)
    (ho : v.ordering = []) (k : Nat) (hk : k < n) : trv v.data k ≤ 0 := by
  obtain ⟨c, hord, hat⟩ := hi.grp
  rw [ho] at hord
  have : n - g * c = 0 := by simpa using (congrArg List.length hord).symm
  exact hat.before k (by omega) hk

theorem GroupInv_init {s : QState} (h : Loaded s) (hk : s.kind = .grouped) :
    GroupInv s.data.length (fun k => trialsOf s k) s.gsize (view s) := by
  have hpos : ∀ k, k < s.data.length → 0 < trv (view s).data k := fun k hk' => h.trv_pos hk'
  refine ⟨Base_init h, hk, rfl, h.gsize hk, by simp [view, h.cursor, h.added, lastMod],
    ⟨0, by simp [view, h.ordering, List.range_eq_range'], ?_⟩, by intro m hm; simp [view, h.added] at hm⟩
  have := h.gsize hk
  exact ⟨by intro k hk'; omega, fun _ => ⟨0, by omega, by omega, h.pos, hpos 0 h.pos⟩,
    fun k _ hk' => hpos k hk', by simp [view, h.added]⟩

/-- Grouped `next_key`: the member of the first `min g m` queued stimuli one place after the cursor. -/
theorem nextKey_grouped {s : QState} {a m : Nat} (hkind : s.kind = .grouped) (hg : 1 ≤ s.gsize)
    (ho : s.ordering = List.range' a m) (hm : 0 < m) :
    ∃ o : Nat, (o < s.gsize ∧ o < m) ∧ (o : Int) = (s.cursor + 1) % ((min s.gsize m : Nat) : Int) ∧
      nextKey s = .ok (some (a + o, { s with cursor := (o : Int) })) := by
  have hmin : 0 < min s.gsize m := by omega
  have hlt := Nat.lt_min.mp (idx_lt hmin (s.cursor + 1))
  refine ⟨((s.cursor + 1) % ((min s.gsize m : Nat) : Int)).toNat, hlt, idx_cast hmin _, ?_⟩
  unfold nextKey
  have hl : s.ordering.length = m := by simp [ho]
  have hl0 : ¬ m = 0 := by omega
  have hg0 : ¬ min s.gsize m = 0 := by omega
  simp only [hkind, hl, hl0, if_false, hg0]
  rw [ho, List.getElem?_range' hlt.2]
  simp only [Nat.one_mul, idx_cast hmin]

/-- Grouped `decrement_key` on an ordering `a, a+1, …`: the first `g` keys leave together. -/
theorem group_erase (a m g : Nat) (p : Nat → Bool) :
    (if ((List.range' a m).take g).all p
      then ((List.range' a m).take g).foldl (fun o k => o.erase k) (List.range' a m)
      else List.range' a m) =
    if (List.range' a (min g m)).all p then List.range' (a + g) (m - g) else List.range' a m := by
  rw [foldl_erase_take _ _ (List.nodup_range' 1), take_range', List.drop_range', Nat.mul_one]

theorem lt_min_iff {a g n k : Nat} (ha : a < n) : k < a + min g (n - a) ↔ k < a + g ∧ k < n := by
  rw [← Nat.add_min_add_left, Nat.add_sub_cancel' (Nat.le_of_lt ha)]
  exact Nat.lt_min

theorem GroupInv_step {n : Nat} {req : Nat → Int} {g : Nat} (s : QState)
    (hi : GroupInv n req g (view s)) :
    nextTrial s = .ok none ∨ ∃ s1, nextTrial s = .ok (some s1) ∧ GroupInv n req g (view s1) := by
  have hlen : s.data.length = n := hi.base.len
  have hkind : s.kind = .grouped := hi.kind
  have hgs : s.gsize = g := hi.gs
  have hg := hi.gpos
  have hcur : s.cursor = lastMod g (view s).keys := hi.cur
  obtain ⟨c, hord, hat⟩ := hi.grp
  have hord' : s.ordering = List.range' (g * c) (n - g * c) := hord
  generalize hadef : g * c = a at hord' hat
  by_cases hdone : n ≤ a
  · refine Or.inl (nextTrial_of_empty (Or.inr (Or.inr hkind)) ?_)
    rw [hord', Nat.sub_eq_zero_of_le hdone]; rfl
  · right
    have han : a < n := Nat.lt_of_not_le hdone
    obtain ⟨o, holt, hoc, hkey⟩ := nextKey_grouped hkind (hgs ▸ hg) hord' (Nat.sub_pos_of_lt han)
    rw [hgs] at holt hoc
    have hog : o < g ∧ a + o < n ∧ a ≤ a + o ∧ a + o < a + g := by
      obtain ⟨h1, h2⟩ := holt
      exact ⟨h1, Nat.add_lt_of_lt_sub' h2, Nat.le_add_right _ _, Nat.add_lt_add_left h1 a⟩
    have hpick := hat.pick hadef.symm hi.base.led hog.1 han (by rw [← hcur]; exact hoc)
    have hmod : (a + o) % g = o := by rw [← hadef, Nat.mul_add_mod, Nat.mod_eq_of_lt hog.1]
    generalize a + o = k at hkey hog hpick hmod
    obtain ⟨_, hkl, hak, hka⟩ := hog
    clear holt hoc hdone
    have hmem : k ∈ ({ s with cursor := (o : Int) } : QState).ordering := by
      show k ∈ s.ordering
      rw [hord', List.mem_range'_1, Nat.add_sub_cancel' (Nat.le_of_lt han)]
      exact ⟨hak, hkl⟩
    have hdec := decrementKey_grouped (s := { s with cursor := (o : Int) }) hkind hmem
    obtain ⟨s1, hs1, hv⟩ := nextTrial_ok hkey hdec (by rw [hlen]; exact hkl) hi.base.delays
    refine ⟨s1, hs1, ?_⟩
    have hkeys : (view s1).keys = (view s).keys ++ [k] := by rw [hv]
    have hdata : (view s1).data = dataStep s.data k := by rw [hv]
    have hkd : k < s.data.length := by rw [hlen]; exact hkl
    have htrv : ∀ k', trv (dataStep s.data k) k' = if k' = k then trv s.data k' - 1 else trv s.data k' :=
      fun k' => trv_dataStep _ _ _ hkd
    have hord1 : (view s1).ordering =
        if (List.range' a (min g (n - a))).all (fun k' => decide (trv (dataStep s.data k) k' ≤ 0))
        then List.range' (a + g) (n - a - g) else List.range' a (n - a) := by
      rw [hv, ← group_erase, ← hgs, ← hord', ← trv_setTrials_eq_dataStep]
    refine ⟨Base_step hi.base hkl hdata hkeys, by rw [hv]; exact hkind, by rw [hv]; exact hgs, hg,
      by rw [hkeys, lastMod_snoc, hmod, hv], ?_,
      by rw [hkeys]; exact snoc_each (P := fun _ pre x => GroupPick n req g pre x) hi.order hpick⟩
    rw [hkeys, hdata]
    split at hord1
    · rename_i hall
      refine ⟨c + 1, by rw [hord1, Nat.mul_succ, hadef, Nat.sub_add_eq], ?_⟩
      rw [Nat.mul_succ, hadef]
      refine hat.advance hg htrv hka (fun k' h1 h2 h3 => ?_)
      simpa using List.all_eq_true.mp hall k' (List.mem_range'_1.mpr ⟨h1, (lt_min_iff han).mpr ⟨h2, h3⟩⟩)
    · rename_i hall
      refine ⟨c, by rw [hord1, hadef], ?_⟩
      rw [hadef]
      obtain ⟨k', hk', hp⟩ := List.all_eq_false.mp (Bool.eq_false_iff.mpr hall)
      obtain ⟨h1, h2⟩ := List.mem_range'_1.mp hk'
      obtain ⟨h2, h3⟩ := (lt_min_iff han).mp h2
      exact hat.stay htrv hka ⟨k', h1, h2, h3, by simpa using hp⟩

end Psi.Queue

import PsiModel.EpochsExt
import Mathlib.Data.Int.Bitwise
/-! EXT18 helper lemmas: `bitOf` = `Int.testBit`, little-endian round trip. -/
namespace Psi.EpochsExt

theorem bitOf_zero (n : Int) : bitOf n 0 = (n % 2).toNat := by
  simp [bitOf]

theorem bitOf_succ (n : Int) (k : Nat) : bitOf n (k + 1) = bitOf (n / 2) k := by
  unfold bitOf
  rw [show k + 1 = 1 + k by omega, Int.shiftRight_add, Int.shiftRight_eq_div_pow n 1]
  rfl

theorem bitOf_le_one (n : Int) (k : Nat) : bitOf n k ≤ 1 := by
  unfold bitOf
  omega

theorem testBit_zero' (n : Int) : n.testBit 0 = n.bodd := by
  conv_lhs => rw [← Int.bit_decomp n]
  exact Int.testBit_bit_zero _ _

theorem testBit_succ' (n : Int) (k : Nat) : n.testBit (k + 1) = (n / 2).testBit k := by
  conv_lhs => rw [← Int.bit_decomp n]
  rw [Int.testBit_bit_succ, Int.div2_val]

theorem emod_two_eq_bodd (n : Int) : n % 2 = if n.bodd then 1 else 0 := by
  have h := Int.bodd_add_div2 n
  rw [Int.div2_val] at h
  cases hb : n.bodd <;> simp [hb] at h ⊢ <;> omega

theorem bitOf_eq_testBit (n : Int) (k : Nat) : bitOf n k = if n.testBit k then 1 else 0 := by
  induction k generalizing n with
  | zero =>
    rw [bitOf_zero, testBit_zero', emod_two_eq_bodd]
    cases n.bodd <;> simp
  | succ k ih => rw [bitOf_succ, testBit_succ', ih]

theorem bitOf_beq_one (n : Int) (k : Nat) : (bitOf n k == 1) = n.testBit k := by
  rw [bitOf_eq_testBit]
  cases n.testBit k <;> rfl

def bitsN (n : Int) (w : Nat) : List Nat := (List.range w).map (bitOf n)

theorem bitsN_succ (n : Int) (w : Nat) : bitsN n (w + 1) = bitOf n 0 :: bitsN (n / 2) w := by
  simp only [bitsN, List.range_succ_eq_map, List.map_cons, List.map_map]
  congr 1
  apply List.map_congr_left
  intro k _
  simp [Function.comp, bitOf_succ]

theorem emod_two_mul (n m : Int) (hm : 0 < m) : n % (2 * m) = n % 2 + 2 * ((n / 2) % m) := by
  have hq := Int.emod_add_mul_ediv (n / 2) m
  have h0 := Int.emod_nonneg (n / 2) (Int.ne_of_gt hm)
  have h1 := Int.emod_lt_of_pos (n / 2) hm
  refine ((Int.ediv_emod_unique (q := n / 2 / m) (Int.mul_pos (by omega) hm)).mpr ⟨?_, by omega, by omega⟩).2
  rw [Int.mul_assoc]
  omega

theorem fromBits_bitsN (n : Int) (w : Nat) : fromBits (bitsN n w) = n % 2 ^ w := by
  induction w generalizing n with
  | zero => simp [bitsN, fromBits, Int.emod_one]
  | succ w ih =>
    rw [bitsN_succ, fromBits, ih, bitOf_zero, Int.pow_succ, Int.mul_comm (2 ^ w) 2,
      emod_two_mul n (2 ^ w) (Int.pow_pos (by omega))]
    have := Int.emod_nonneg n (by omega : (2 : Int) ≠ 0)
    omega

end Psi.EpochsExt

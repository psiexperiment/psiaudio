import PsiModel.Edges
import PsiProofs.Helper.C13_Stream
/-!
C13: the per-chunk selections tile — concatenating the blocks gives each transition exactly once, in order.  Also
the declared spans of the blocks and what the adjacency loop of `combine_events` makes of them.
-/
namespace Psi.Edges
open Psi.Epochs

theorem filter_or_split {α} (P Q : α → Bool) : ∀ (L : List α),
    (∀ a ∈ L, ¬ (P a = true ∧ Q a = true)) →
    L.Pairwise (fun a b => ¬ (Q a = true ∧ P b = true)) →
    L.filter (fun a => P a || Q a) = L.filter P ++ L.filter Q := by
  intro L
  induction L with
  | nil => intro _ _; rfl
  | cons h t ih =>
    intro hd hp
    obtain ⟨hh, ht⟩ := List.pairwise_cons.mp hp
    have iht := ih (fun a ha => hd a (List.mem_cons_of_mem _ ha)) ht
    cases hP : P h <;> cases hQ : Q h
    · simp [hP, hQ, iht]
    · -- `h` is a `Q`-member: no `P`-member follows
      have : t.filter P = [] := List.filter_eq_nil_iff.mpr fun a ha hPa => hh a ha ⟨hQ, hPa⟩
      simp [hP, hQ, iht, this]
    · simp [hP, hQ, iht]
    · exact absurd ⟨hP, hQ⟩ (hd h List.mem_cons_self)

/-- the input sample whose arrival decides the event: a rising edge at `p` is confirmed by sample
`p + m - 1` (the `m`-th high one), a falling edge by sample `p` itself -/
def decidedAt (m : Nat) (ev : Event) : Int :=
  match ev.kind with
  | .rising => ev.sample + m - 1
  | .falling => ev.sample

/-- a chunk reports the events decided by its own input samples `[s0 + m, s0 + m + n)` -/
theorem sel_iff_decidedAt (det : Detect) (m : Nat) (s0 : Int) (n : Nat) (ev : Event) :
    sel det m s0 n ev = true ↔ det.wants ev.kind = true ∧
      s0 + m ≤ decidedAt m ev ∧ decidedAt m ev < s0 + m + n := by
  rw [sel_iff, decidedAt]
  refine and_congr_right fun _ => ?_
  cases ev.kind <;> simp only [true_and, false_and, or_false, false_or, reduceCtorEq] <;> omega

theorem decidedAt_lt_of_gap {m : Nat} (hm : 1 ≤ m) {a b : Event} (h : Gap m a b) :
    decidedAt m a < decidedAt m b := by
  unfold Gap at h
  unfold decidedAt
  cases a.kind <;> cases b.kind <;> simp only <;> omega

theorem sel_add (det : Detect) (m : Nat) (s0 : Int) (n1 n2 : Nat) (ev : Event) :
    sel det m s0 (n1 + n2) ev = (sel det m s0 n1 ev || sel det m (s0 + n1) n2 ev) := by
  rw [Bool.eq_iff_iff, Bool.or_eq_true, sel_iff_decidedAt, sel_iff_decidedAt, sel_iff_decidedAt,
    ← and_or_left, Int.natCast_add]
  refine and_congr_right fun _ => ?_
  omega

theorem specBlocks_flat (det : Detect) (m : Nat) (hm : 1 ≤ m) (G : List Event)
    (hG : G.Pairwise (Gap m)) : ∀ (cs : List (List Bool)) (s0 : Int),
    (specBlocks det m G s0 cs).flatMap (·.events) = G.filter (sel det m s0 cs.flatten.length) := by
  intro cs
  induction cs with
  | nil =>
    intro s0
    refine (List.filter_eq_nil_iff.mpr fun ev _ h => ?_).symm
    have := ((sel_iff_decidedAt det m s0 _ ev).mp h).2
    simp only [List.flatten_nil, List.length_nil] at this
    omega
  | cons c cs ih =>
    intro s0
    simp only [specBlocks, List.flatMap_cons, List.flatten_cons, List.length_append, ih]
    rw [show sel det m s0 (c.length + cs.flatten.length)
        = fun ev => sel det m s0 c.length ev || sel det m (s0 + c.length) cs.flatten.length ev from
      funext (sel_add det m s0 c.length cs.flatten.length)]
    symm
    apply filter_or_split
    · intro a _ ⟨h1, h2⟩
      have := ((sel_iff_decidedAt _ _ _ _ _).mp h1).2
      have := ((sel_iff_decidedAt _ _ _ _ _).mp h2).2
      omega
    · refine List.Pairwise.imp ?_ hG
      intro a b hab ⟨h1, h2⟩
      have := decidedAt_lt_of_gap hm hab
      have := ((sel_iff_decidedAt _ _ _ _ _).mp h1).2
      have := ((sel_iff_decidedAt _ _ _ _ _).mp h2).2
      omega
theorem specBlocks_mem (det : Detect) (m : Nat) (G : List Event) :
    ∀ (cs : List (List Bool)) (s0 : Int) (b : Block), b ∈ specBlocks det m G s0 cs →
    ∃ n : Nat, b.stop = b.start + n ∧ b.events = G.filter (sel det m b.start n) := by
  intro cs
  induction cs with
  | nil => intro s0 b h; simp [specBlocks] at h
  | cons c cs ih =>
    intro s0 b h
    simp only [specBlocks, List.mem_cons] at h
    rcases h with h | h
    · subst h; exact ⟨c.length, rfl, rfl⟩
    · exact ih _ b h

theorem specBlocks_append (det : Detect) (m : Nat) (G : List Event) :
    ∀ (cs1 cs2 : List (List Bool)) (s0 : Int),
    specBlocks det m G s0 (cs1 ++ cs2)
      = specBlocks det m G s0 cs1 ++ specBlocks det m G (s0 + cs1.flatten.length) cs2 := by
  intro cs1
  induction cs1 with
  | nil => intro cs2 s0; simp [specBlocks]
  | cons c cs ih =>
    intro cs2 s0
    simp only [List.cons_append, specBlocks, List.flatten_cons, List.length_append, ih,
      Int.natCast_add, Int.add_assoc]

theorem adjacent_specBlocks (det : Detect) (m : Nat) (G : List Event) :
    ∀ (cs : List (List Bool)) (s0 : Int), adjacent s0 (specBlocks det m G s0 cs) = true := by
  intro cs
  induction cs with
  | nil => intro _; rfl
  | cons c cs ih => intro s0; simp [specBlocks, adjacent, ih]

theorem specBlocks_length (det : Detect) (m : Nat) (G : List Event) :
    ∀ (cs : List (List Bool)) (s0 : Int), (specBlocks det m G s0 cs).length = cs.length := by
  intro cs
  induction cs with
  | nil => intro _; rfl
  | cons c cs ih => intro s0; simp [specBlocks, ih]

def spans : Int → List (List Bool) → List (Int × Int)
  | _, [] => []
  | s0, c :: cs => (s0, s0 + c.length) :: spans (s0 + c.length) cs

theorem adjacent_of_spans : ∀ (cs : List (List Bool)) (s0 : Int) (bs : List Block),
    bs.map (fun b => (b.start, b.stop)) = spans s0 cs → adjacent s0 bs = true := by
  intro cs
  induction cs with
  | nil =>
    intro s0 bs h
    cases bs with
    | nil => rfl
    | cons b bs => simp [spans] at h
  | cons c cs ih =>
    intro s0 bs h
    cases bs with
    | nil => simp [spans] at h
    | cons b bs =>
      simp only [List.map_cons, spans, List.cons.injEq, Prod.mk.injEq] at h
      obtain ⟨⟨h1, h2⟩, h3⟩ := h
      simp only [adjacent, h1, bne_self_eq_false, Bool.false_eq_true, if_false]
      rw [h2]; exact ih _ bs h3

/-- for every input (no run-length precondition) -/
theorem run_spans (m : Nat) (det : Detect) : ∀ (cs : List (List Bool)) (st : State),
    ∃ st' bs, run m det st cs = .ok (st', bs) ∧
      bs.map (fun b => (b.start, b.stop)) = spans st.s0 cs := by
  intro cs
  induction cs with
  | nil => intro st; exact ⟨st, [], rfl, rfl⟩
  | cons c cs ih =>
    intro st
    have hstep : ∃ st1 b, step m det st c = .ok (st1, b) ∧ b.start = st.s0 ∧
        b.stop = st.s0 + c.length ∧ st1.s0 = st.s0 + c.length := by
      unfold step
      simp only [epochs_eq_runs]
      exact ⟨_, _, rfl, rfl, rfl, rfl⟩
    obtain ⟨st1, b, h1, h2, h3, h4⟩ := hstep
    obtain ⟨st', bs, g1, g2⟩ := ih st1
    exact ⟨st', b :: bs, by simp [run, h1, g1], by simp [spans, h2, h3, g2, h4]⟩

theorem spans_length : ∀ (cs : List (List Bool)) (s : Int), (spans s cs).length = cs.length := by
  intro cs
  induction cs with
  | nil => intro _; rfl
  | cons c cs ih => intro s; simp [spans, ih]

theorem adjacent_false_of_gap (b1 b2 : Block) (post : List Block) (h : b1.stop ≠ b2.start) :
    ∀ (pre : List Block) (s0 : Int), adjacent s0 (pre ++ b1 :: b2 :: post) = false := by
  intro pre
  induction pre with
  | nil => intro s0; simp [adjacent, Ne.symm h]
  | cons p pre ih => intro s0; simp [adjacent, ih]

end Psi.Edges

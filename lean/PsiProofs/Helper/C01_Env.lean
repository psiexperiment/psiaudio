import PsiModel.Stim
import PsiProofs.Helper.C01_Chunk
/-! `envelope()` returns the `[offset, offset+samples)` slice of the full envelope.

Compositional proof: each `get_i`/`get_n` pair is "drop `offset - start_i`, then take what
is left of the request" on segment i (`code_replicate`, `code_slice`), and a window of a
concatenation splits segment by segment (`window_append`). -/
namespace Psi.Stim
open Psi.Chunk

variable {α : Type}

/-- What a request still wanting `rem` samples takes from a segment that starts `d` samples
before the request (`d < 0`: the segment starts after the request start). -/
def seg (l : List α) (d : Int) (rem : Nat) : List α := (l.drop d.toNat).take rem

theorem seg_length (l : List α) (d : Int) (rem : Nat) :
    (seg l d rem).length = min rem (l.length - d.toNat) := by
  simp [seg, List.length_take, List.length_drop]

theorem seg_nil (d : Int) (rem : Nat) : seg ([] : List α) d rem = [] := by simp [seg]

theorem window_append (l₁ rest : List α) (d : Int) (rem : Nat) :
    seg (l₁ ++ rest) d rem
      = seg l₁ d rem ++ seg rest (d - l₁.length) (rem - (seg l₁ d rem).length) := by
  unfold seg
  rw [List.drop_append, List.take_append, List.length_take, List.length_drop, Int.toNat_sub',
    ← Nat.sub_eq_sub_min]

theorem getI_eq (off st : Int) : getI off st = (((off - st).toNat : Nat) : Int) := by
  unfold getI; omega

theorem getN_eq (L rem : Nat) (off st : Int) :
    getN L off st rem = ((min rem (L - (off - st).toNat) : Nat) : Int) := by
  unfold getN clip
  generalize off - st = d
  rcases Int.lt_or_le d 0 with hd | hd
  · rw [Int.toNat_of_nonpos (Int.le_of_lt hd), Int.max_eq_left (by omega), Int.min_eq_right (by omega)]
    omega
  · obtain ⟨k, rfl⟩ := Int.eq_ofNat_of_zero_le hd
    rw [Int.toNat_natCast, show max ((L : Int) - k) 0 = ((L - k : Nat) : Int) by omega]
    have hm : L - k ≤ L := Nat.sub_le _ _
    generalize L - k = m at hm
    omega

theorem code_replicate (v : α) (L rem : Nat) (off st : Int) :
    List.replicate (getN L off st rem).toNat v = seg (List.replicate L v) (off - st) rem := by
  rw [getN_eq]
  simp [seg, List.drop_replicate, List.take_replicate]

theorem code_slice (tbl : List α) (base L rem : Nat) (off st : Int) :
    sliceNN tbl (base + getI off st) (base + getI off st + getN L off st rem)
      = seg ((tbl.drop base).take L) (off - st) rem := by
  rw [getN_eq, getI_eq]
  simp only [sliceNN, seg, ← Int.natCast_add, Int.toNat_natCast]
  rw [List.drop_take, List.drop_take, List.take_take, List.drop_drop, Nat.add_sub_cancel_left]

/-- What is left of the request after segment `l` has given its part. -/
theorem sub_getN (l : List α) {L : Nat} (hl : l.length = L) (rem : Nat) (off st : Int) :
    (rem : Int) - getN L off st rem = ((rem - (seg l (off - st) rem).length : Nat) : Int) := by
  rw [getN_eq, seg_length, hl]
  omega

theorem rampTable_take (ramp : Nat → α) (r : Nat) : (rampTable ramp r).take r = (List.range r).map ramp := by
  unfold rampTable
  rw [← List.map_take, List.take_range, Nat.min_eq_left (by omega)]

theorem rampTable_drop (ramp : Nat → α) (r : Nat) :
    ((rampTable ramp r).drop r).take r = (List.range r).map fun i => ramp (r + i) := by
  unfold rampTable
  rw [Nat.two_mul, List.range_add, List.map_append, List.drop_left' (by simp), List.map_map,
    List.take_of_length_le (by simp)]
  rfl

def envFull [Sample α] (ramp : Nat → α) (lb dur r : Nat) : List α :=
  List.replicate lb Sample.zero ++ ((List.range r).map ramp
    ++ (List.replicate (dur - 2 * r) Sample.one ++ (List.range r).map fun i => ramp (r + i)))

theorem envelopeFrag_eq_window [Sample α] (ramp : Nat → α) (lb dur r off n : Nat) (h : 2 * r ≤ dur) :
    envelopeFrag ramp lb dur r off n =
      seg (envFull ramp lb dur r) off n
        ++ List.replicate (n - (seg (envFull ramp lb dur r) off n).length) Sample.zero := by
  have hl1 : ((List.range r).map ramp).length = r := by simp
  have hl3 : ((List.range r).map fun i => ramp (r + i)).length = r := by simp
  have hss : (dur : Int) - 2 * (r : Int) = ((dur - 2 * r : Nat) : Int) := by omega
  unfold envelopeFrag
  simp only []
  rw [hss]
  -- stage 0: leading zeros
  rw [code_replicate, sub_getN (List.replicate lb (Sample.zero : α)) List.length_replicate]
  -- stage 1: onset ramp, read from table position 0
  have s1 := code_slice (rampTable ramp r) 0 r
  simp only [Int.natCast_zero, Int.zero_add, List.drop_zero] at s1
  rw [s1, rampTable_take, sub_getN _ hl1]
  -- stage 2: plateau
  rw [code_replicate, sub_getN (List.replicate (dur - 2 * r) (Sample.one : α)) List.length_replicate]
  -- stage 3: offset ramp
  rw [code_slice, rampTable_drop, sub_getN _ hl3]
  -- fold the window back
  unfold envFull
  rw [window_append, window_append, window_append]
  simp only [List.length_replicate, hl1, List.append_assoc]
  have d2 : (off : Int) - lb - (r : Int) = (off : Int) - ((lb : Int) + r) := by omega
  have d3 : (off : Int) - ((lb : Int) + r) - ((dur - 2 * r : Nat) : Int) = (off : Int) - ((lb : Int) + dur - r) := by omega
  simp only [Int.sub_zero] at *
  rw [d2, d3]
  simp only [List.length_append, Nat.sub_sub, Int.toNat_natCast, Nat.add_assoc]

theorem window_pad_eq_slice (full : List α) (z : α) (f : Nat → α)
    (hin : ∀ k, k < full.length → full[k]? = some (f k))
    (hout : ∀ k, full.length ≤ k → f k = z) (off n : Nat) :
    seg full off n ++ List.replicate (n - (seg full off n).length) z = slice f off n := by
  have hlen := seg_length full (off : Int) n
  simp only [Int.toNat_natCast] at hlen
  refine eq_slice (by rw [List.length_append, List.length_replicate]; omega) fun i hi => ?_
  rw [List.getElem?_append, hlen]
  by_cases hk : off + i < full.length
  · rw [if_pos (by omega)]
    simp only [seg, Int.toNat_natCast, List.getElem?_take, hi, if_true, List.getElem?_drop]
    exact hin _ hk
  · rw [if_neg (by omega), List.getElem?_replicate, if_pos (by omega), hout _ (by omega)]

theorem envFull_length [Sample α] (ramp : Nat → α) (lb dur r : Nat) (h : 2 * r ≤ dur) :
    (envFull ramp lb dur r).length = lb + dur := by
  simp only [envFull, List.length_append, List.length_replicate, List.length_map, List.length_range]
  omega

theorem envFull_getElem? [Sample α] (ramp : Nat → α) (lb dur r : Nat) (h : 2 * r ≤ dur) (k : Nat)
    (hk : k < lb + dur) : (envFull ramp lb dur r)[k]? = some (envAt ramp lb dur r k) := by
  obtain ⟨D, rfl⟩ := Nat.le.dest h
  have e1 : lb + (2 * r + D) - r = lb + (r + D) := by omega
  simp only [envFull, envAt, List.getElem?_append, List.length_replicate, List.length_map, List.length_range,
    List.getElem?_replicate, List.getElem?_map, Nat.add_sub_cancel_left, e1]
  by_cases c0 : k < lb
  · rw [if_pos c0, if_pos c0, if_pos c0]
  · obtain ⟨t, rfl⟩ := Nat.le.dest (Nat.le_of_not_lt c0)
    simp only [if_neg c0, Nat.add_sub_cancel_left, Nat.add_lt_add_iff_left] at hk ⊢
    by_cases c1 : t < r
    · rw [if_pos c1, if_pos c1, List.getElem?_range c1]
      rfl
    · obtain ⟨u, rfl⟩ := Nat.le.dest (Nat.le_of_not_lt c1)
      simp only [if_neg c1, Nat.add_sub_cancel_left, Nat.add_lt_add_iff_left] at hk ⊢
      by_cases c2 : u < D
      · rw [if_pos c2, if_pos c2, if_pos c2]
      · obtain ⟨v, rfl⟩ := Nat.le.dest (Nat.le_of_not_lt c2)
        have hv : v < r := by omega
        simp only [if_neg c2, Nat.add_sub_cancel_left, if_pos hk]
        rw [List.getElem?_range hv, Option.map_some]
        congr 2
        omega

theorem envAt_outside [Sample α] (ramp : Nat → α) (lb dur r : Nat) (h : 2 * r ≤ dur) (k : Nat)
    (hk : k < lb ∨ lb + dur ≤ k) : envAt ramp lb dur r k = Sample.zero := by
  unfold envAt
  rcases hk with hk | hk
  · rw [if_pos hk]
  · rw [if_neg (by omega), if_neg (by omega), if_neg (by omega), if_neg (by omega)]

theorem envelopeFrag_eq_slice [Sample α] (ramp : Nat → α) (lb dur r off n : Nat) (h : 2 * r ≤ dur) :
    envelopeFrag ramp lb dur r off n = slice (envAt ramp lb dur r) off n := by
  rw [envelopeFrag_eq_window ramp lb dur r off n h]
  have hlen := envFull_length ramp lb dur r h
  apply window_pad_eq_slice
  · exact fun k hk => envFull_getElem? ramp lb dur r h k (hlen ▸ hk)
  · exact fun k hk => envAt_outside ramp lb dur r h k (.inr (hlen ▸ hk))

/-- `envelope(window, fs, duration, rise_time, offset, start_time, samples)` returns the
`[offset, offset+samples)` slice of the full envelope, for every offset and length. -/
theorem envelope_fragment_eq_slice {α : Type} [Sample α] (ramp : Nat → α) (p : EnvP)
    (h : p.riseN * 2 ≤ p.dur) (off n : Nat) :
    envelope ramp p off n = .ok (slice (envAt ramp p.start p.dur p.riseN) off n) := by
  unfold envelope
  rw [if_neg (by omega), envelopeFrag_eq_slice ramp p.start p.dur p.riseN off n (by omega)]

end Psi.Stim

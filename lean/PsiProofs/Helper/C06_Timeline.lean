import PsiProofs.Helper.C06_Compose
/-!
What the played timeline holds.

`Emb K0 gen added V`: on the committed view `V` (played timeline ++ what the queue is already
committed to play) every logged (= non-cancelled) trial has its waveform in full at its notified
position, and everything after that waveform is silence or a located sample of a trial that
starts later.  The view only changes by appending silence, appending a new trial's waveform and
delay at its notified position, and truncation at a pause position behind every trial that stays
logged.
-/
namespace Psi.E2E
open Psi.Queue Psi.Extract

/-- position `p` of `V` is silence, or sample `j'` of a notified trial that starts at or after `lo` -/
def Loc (K0 : Int) (added : List Info) (lo : Int) (V : List Cell) (p : Nat) : Prop :=
  V[p]? = some Cell.Z ∨
    ∃ i' ∈ added, ∃ j' : Nat, j' < i'.len ∧ lo ≤ K0 + i'.k ∧ K0 + i'.k + (j' : Int) = (p : Int) ∧
      V[p]? = some (Cell.W i'.key j')

structure Emb (K0 : Int) (gen added : List Info) (V : List Cell) : Prop where
  gensub : ∀ i ∈ gen, i ∈ added
  pos : ∀ i ∈ gen, 0 ≤ K0 + i.k ∧ K0 + i.k + (i.len : Int) ≤ (V.length : Int)
  kept : ∀ i ∈ gen, ∀ j : Nat, j < i.len → ∀ p : Nat, (p : Int) = K0 + i.k + (j : Int) →
    V[p]? = some (Cell.W i.key j)
  after : ∀ i ∈ gen, ∀ p : Nat, K0 + i.k + (i.len : Int) ≤ (p : Int) → p < V.length →
    Loc K0 added (K0 + i.k + (i.len : Int)) V p

theorem Loc_mono {K0 : Int} {added added' : List Info} {lo lo' : Int} {V V' : List Cell} {p : Nat}
    (h : Loc K0 added lo V p) (hs : ∀ i ∈ added, i ∈ added') (hv : V'[p]? = V[p]?) (hlo : lo' ≤ lo) :
    Loc K0 added' lo' V' p := by
  rcases h with h | ⟨i', hi', j', h1, h2, h3, h4⟩
  · left; rw [hv]; exact h
  · right; exact ⟨i', hs i' hi', j', h1, Int.le_trans hlo h2, h3, by rw [hv]; exact h4⟩

theorem Emb_nil (K0 : Int) (added : List Info) (V : List Cell) : Emb K0 [] added V :=
  ⟨by simp, by simp, by simp, by simp⟩

theorem start_length (V : List Cell) (key len d : Nat) :
    (V ++ (wave key 0 len ++ zeros d)).length = V.length + len + d := by
  simp [Nat.add_assoc]

theorem start_wave (V : List Cell) (key len d : Nat) {j : Nat} (hj : j < len) :
    (V ++ (wave key 0 len ++ zeros d))[V.length + j]? = some (Cell.W key j) := by
  rw [List.getElem?_append_right (Nat.le_add_right _ _), Nat.add_sub_cancel_left,
    List.getElem?_append_left (by rw [wave_length]; exact hj)]
  simpa using wave_getElem? key 0 len j hj

theorem start_gap (V : List Cell) (key len d : Nat) {p : Nat} (hp : V.length + len ≤ p)
    (hlt : p < V.length + len + d) : (V ++ (wave key 0 len ++ zeros d))[p]? = some Cell.Z := by
  rw [List.getElem?_append_right (Nat.le_trans (Nat.le_add_right _ _) hp),
    List.getElem?_append_right (by rw [wave_length]; exact Nat.le_sub_of_add_le' hp)]
  apply zeros_getElem?
  rw [wave_length]; omega

section
variable {K0 : Int} {gen added : List Info} {V : List Cell}

theorem Emb_append {added' : List Info} (h : Emb K0 gen added V)
    (X : List Cell) (hs : ∀ i ∈ added, i ∈ added')
    (hX : ∀ p, V.length ≤ p → p < (V ++ X).length → Loc K0 added' V.length (V ++ X) p) :
    Emb K0 gen added' (V ++ X) := by
  refine ⟨fun i hi => hs i (h.gensub i hi), ?_, ?_, ?_⟩
  · intro i hi
    rw [List.length_append]
    exact ⟨(h.pos i hi).1, Int.le_trans (h.pos i hi).2 (Int.ofNat_le.2 (Nat.le_add_right _ _))⟩
  · intro i hi j hj p hp
    have := h.pos i hi
    rw [List.getElem?_append_left (by omega)]
    exact h.kept i hi j hj p hp
  · intro i hi p hp hlt
    by_cases hpv : p < V.length
    · exact Loc_mono (h.after i hi p hp hpv) hs (List.getElem?_append_left hpv) (Int.le_refl _)
    · exact Loc_mono (hX p (Nat.le_of_not_lt hpv) hlt) (fun _ h => h) rfl (h.pos i hi).2

theorem Emb_zeros (h : Emb K0 gen added V) (z : Nat) :
    Emb K0 gen added (V ++ zeros z) := by
  refine Emb_append h _ (fun _ h => h) (fun p hp hlt => Or.inl ?_)
  rw [List.getElem?_append_right hp]
  apply zeros_getElem?
  simp only [List.length_append, zeros, List.length_replicate] at hlt
  omega

theorem Emb_start (h : Emb K0 gen added V)
    (info : Info) (hk : K0 + info.k = (V.length : Int)) :
    Emb K0 (gen ++ [info]) (added ++ [info]) (V ++ (wave info.key 0 info.len ++ zeros info.delay.toNat)) := by
  -- nothing changes for the logged trials: the block is the new trial's waveform, then silence
  have old : Emb K0 gen (added ++ [info])
      (V ++ (wave info.key 0 info.len ++ zeros info.delay.toNat)) := by
    refine Emb_append h _ (fun _ h => List.mem_append_left _ h) ?_
    intro p hp hlt
    rw [start_length] at hlt
    by_cases hx : p < V.length + info.len
    · refine Or.inr ⟨info, List.mem_append_right _ List.mem_cons_self, p - V.length, by omega, by omega,
        by omega, ?_⟩
      have := start_wave V info.key info.len info.delay.toNat (j := p - V.length) (by omega)
      rwa [Nat.add_sub_cancel' hp] at this
    · exact Or.inl (start_gap V _ _ _ (by omega) hlt)
  -- and the new one is embedded with silence after it
  refine ⟨?_, ?_, ?_, ?_⟩
  · intro i hi
    rcases List.mem_append.1 hi with hi | hi
    · exact old.gensub i hi
    · exact List.mem_append_right _ hi
  · intro i hi
    rcases List.mem_append.1 hi with hi | hi
    · exact old.pos i hi
    · rw [List.mem_singleton.1 hi, start_length]; omega
  · intro i hi j hj p hp
    rcases List.mem_append.1 hi with hi | hi
    · exact old.kept i hi j hj p hp
    · rw [List.mem_singleton.1 hi] at hj hp
      rw [List.mem_singleton.1 hi, ← start_wave V info.key info.len info.delay.toNat hj]
      congr 1; omega
  · intro i hi p hp hlt
    rcases List.mem_append.1 hi with hi | hi
    · exact old.after i hi p hp hlt
    · rw [List.mem_singleton.1 hi] at hp
      rw [start_length] at hlt
      exact Or.inl (start_gap V _ _ _ (by omega) hlt)

theorem Emb_trunc {gen' : List Info} (h : Emb K0 gen added V) (M : Nat)
    (hsub : ∀ i ∈ gen', i ∈ gen ∧ K0 + i.k + (i.len : Int) ≤ (M : Int)) (hM : M ≤ V.length) :
    Emb K0 gen' added (V.take M) := by
  refine ⟨fun i hi => h.gensub i (hsub i hi).1, ?_, ?_, ?_⟩
  · intro i hi
    rw [List.length_take, Nat.min_eq_left hM]
    exact ⟨(h.pos i (hsub i hi).1).1, (hsub i hi).2⟩
  · intro i hi j hj p hp
    have := (hsub i hi).2
    rw [List.getElem?_take_of_lt (by omega)]
    exact h.kept i (hsub i hi).1 j hj p hp
  · intro i hi p hp hlt
    rw [List.length_take, Nat.min_eq_left hM] at hlt
    exact Loc_mono (h.after i (hsub i hi).1 p hp (Nat.lt_of_lt_of_le hlt hM)) (fun _ h => h)
      (List.getElem?_take_of_lt hlt) (Int.le_refl _)

end

theorem zeros_comm (a b : Nat) : zeros a ++ zeros b = zeros b ++ zeros a := by
  simp [zeros, List.replicate_append_replicate, Nat.add_comm]

theorem idle_iff (s : QState) : idle s = true ↔ srcDone s := by
  unfold idle srcDone
  cases h : s.source with
  | none => simp
  | some src => simp

/-- what one tick does to the logs and to the committed view -/
inductive TickView (K0 : Int) (q q' : QState) (tl : List Cell) (c : Cell) : Prop
  | quiet (z : Nat) (hg : q'.generated = q.generated) (ha : q'.added = q.added)
      (hv : tl ++ [c] ++ rest q' = (tl ++ rest q) ++ zeros z)
  | start (info : Info) (hg : q'.generated = q.generated ++ [info]) (ha : q'.added = q.added ++ [info])
      (hk : K0 + info.k = ((tl ++ rest q).length : Int)) (hl : 0 < info.len) (hu : info.uid = q.added.length)
      (hv : tl ++ [c] ++ rest q' = (tl ++ rest q) ++ (wave info.key 0 info.len ++ zeros info.delay.toNat))

theorem tick_view {K0 : Int} {q q' : QState} {tl : List Cell} {c : Cell}
    (len : (tl.length : Int) = K0 + q.samples) (idl : q.paused = true → srcDone q)
    (h : tick q = .ok (c, q')) :
    TickView K0 q q' tl c ∧ q'.removed = q.removed ∧ (q'.paused = true → srcDone q') := by
  cases tick_cases h with
  | paused hp hc hs =>
    subst hs hc
    refine ⟨.quiet 1 rfl rfl ?_, rfl, fun _ => idl hp⟩
    show tl ++ zeros 1 ++ rest q = _
    rw [rest_srcDone (idl hp), List.append_assoc, List.append_assoc, zeros_comm]
  | play src hp hsrc hlt he =>
    cases he
    refine ⟨.quiet 0 rfl rfl ?_, rfl, fun hp' => absurd (hp'.symm.trans hp) (by decide)⟩
    rw [rest_emit q src hsrc hlt, zeros_zero, List.append_nil, List.append_assoc]; rfl
  | gap hp hdone hd hc hs =>
    subst hs hc
    refine ⟨.quiet 0 rfl rfl ?_, rfl, fun hp' => absurd (hp'.symm.trans hp) (by decide)⟩
    have : q.delaySamples.toNat = (q.delaySamples - 1).toNat + 1 := by omega
    rw [rest_srcDone hdone, this, zeros_succ, zeros_zero, List.append_nil, List.append_assoc]; rfl
  | dry hp hdone hd hk hc hs =>
    subst hs hc
    refine ⟨.quiet 1 rfl rfl ?_, rfl, fun hp' => absurd (hp'.symm.trans hp) (by decide)⟩
    have hz : q.delaySamples.toNat = 0 := by omega
    show tl ++ zeros 1 ++ zeros q.delaySamples.toNat = _
    rw [rest_srcDone hdone, hz, zeros_zero, List.append_nil, List.append_nil]
  | start s1 src hp hdone hd hn hsrc hlt he =>
    cases he
    have hz : q.delaySamples.toNat = 0 := by omega
    have hr : rest q = [] := by rw [rest_srcDone hdone, hz]; rfl
    obtain ⟨info, g, ha, hg, hk, hu, hs1, hdl, hd0, hsm, hpa, _, hrm, _⟩ := nextTrial_obs hn
    rw [hs1] at hsrc
    cases hsrc
    have hrs1 : rest s1 = wave info.key 0 info.len ++ zeros info.delay.toNat := by
      simp only [rest, hs1, hdl, Nat.sub_zero]
    refine ⟨.start info hg ha ?_ hlt hu ?_, hrm,
      fun hp' => absurd (hp'.symm.trans (hpa.trans hp)) (by decide)⟩
    · rw [hr, List.append_nil, hk, len]; rfl
    · rw [hr, List.append_nil, ← hrs1, rest_emit s1 _ hs1 hlt, List.append_assoc]; rfl

/-- `pop n` is `n` ticks (`popBuffer_refines`): what one tick preserves of the state and the samples
emitted so far, `pop n` preserves -/
theorem pop_induction {P : QState → List Cell → Prop}
    (step : ∀ {q q' : QState} {cs : List Cell} {c : Cell}, P q cs → tick q = .ok (c, q') → P q' (cs ++ [c]))
    {n : Nat} {q q' : QState} {out : List Cell} (wf : WF q) (h0 : P q [])
    (h : popBuffer n q = .ok (out, q')) : P q' out := by
  have hn : 0 < n := by
    rcases Nat.eq_zero_or_pos n with h0 | h0
    · subst h0; simp [popBuffer] at h
    · exact h0
  rw [popBuffer_refines wf hn, ← runTicksD_true] at h
  refine (runSched_induct (I := fun cs q => P q cs) (out := []) _ ?_ h0 h).1
  intro d hd cs q c q' hi ht
  rw [List.eq_of_mem_replicate hd] at ht
  exact step hi ht

/-- everything `pause(m)` does, for a position not after the clock -/
theorem pause_some_fields (m : Int) (s : QState) (hm : m ≤ s.samples) :
    (pause (some m) s).1.added = s.added ∧
    (pause (some m) s).1.generated = s.generated.filter (fun i => !endsAfter m i) ∧
    (pause (some m) s).1.removed = s.removed ++ ((s.generated.reverse.filter (endsAfter m)).map (·.uid)) ∧
    (pause (some m) s).1.source = none ∧ (pause (some m) s).1.delaySamples = 0 ∧
    (pause (some m) s).1.paused = true ∧ (pause (some m) s).1.samples = m := by
  obtain ⟨_, hg, hr, ha, hsrc, hdl, hp, hsm, _⟩ := pause_fields m s
  exact ⟨ha, hg, hr, hsrc, hdl, hp, by rw [hsm, if_neg (by omega)]⟩

/-- `resume(m)` at the clock, or later while nothing is left to play: the committed view gains the
silence in between at its end -/
theorem resume_view (q : QState) (tl : List Cell) (m : Int)
    (hi : m = q.samples ∨ idle q = true) :
    tl ++ zeros (m - q.samples).toNat ++ rest (resume (some m) q) =
      (tl ++ rest q) ++ zeros (m - q.samples).toNat := by
  have hrest : rest (resume (some m) q) = rest q := by simp [rest, resume]
  rw [hrest]
  rcases hi with hi | hi
  · have : (m - q.samples).toNat = 0 := by omega
    simp [this, zeros]
  · rw [rest_srcDone ((idle_iff q).1 hi), List.append_assoc, List.append_assoc, zeros_comm]

/-- invariant of the queue `q` together with the played timeline `tl` (queue sample 0 at position
`K0`) -/
structure QInv (K0 : Int) (q : QState) (tl : List Cell) : Prop where
  wf : WF q
  once : Once q
  len : (tl.length : Int) = K0 + q.samples
  idle : q.paused = true → srcDone q
  uid : q.added.map (·.uid) = List.range q.added.length
  lenpos : ∀ i ∈ q.generated, 0 < i.len
  sorted : q.generated.Pairwise (fun a b => a.k < b.k)
  emb : Emb K0 q.generated q.added (tl ++ rest q)

section
variable {K0 : Int} {q : QState} {tl : List Cell}

theorem QInv_tick {q' : QState} {c : Cell} (inv : QInv K0 q tl)
    (h : tick q = .ok (c, q')) :
    QInv K0 q' (tl ++ [c]) ∧ q'.removed = q.removed ∧
      ∃ new, q'.added = q.added ++ new ∧ ∀ i ∈ new, (tl.length : Int) ≤ K0 + i.k := by
  obtain ⟨wf, once, len, idl, uid, lenpos, sorted, emb⟩ := inv
  have wf' := tick_WF wf h
  have once' := Once_tick once h
  have len' : ((tl ++ [c]).length : Int) = K0 + q'.samples := by
    rw [tick_samples h]; simp only [List.length_append, List.length_singleton]; push_cast; omega
  obtain ⟨tv, hrm, idl'⟩ := tick_view len idl h
  cases tv with
  | quiet z hg ha hv =>
    refine ⟨⟨wf', once', len', idl', by rw [ha]; exact uid, by rw [hg]; exact lenpos,
      by rw [hg]; exact sorted, ?_⟩, hrm, [], by rw [ha, List.append_nil], fun _ hi => nomatch hi⟩
    rw [hv, hg, ha]; exact Emb_zeros emb z
  | start info hg ha hk hl hu hv =>
    refine ⟨⟨wf', once', len', idl', ?_, ?_, ?_, ?_⟩, hrm, [info], ha, ?_⟩
    · rw [ha]
      simp only [List.map_append, List.map_cons, List.map_nil, List.length_append, List.length_cons,
        List.length_nil, List.range_succ, uid, hu]
    · intro i hi
      rw [hg] at hi
      rcases List.mem_append.1 hi with hi | hi
      · exact lenpos i hi
      · simp only [List.mem_singleton] at hi; subst hi; exact hl
    · rw [hg, List.pairwise_append]
      refine ⟨sorted, by simp, ?_⟩
      intro a ha' b hb
      simp only [List.mem_singleton] at hb; subst hb
      have := emb.pos a ha'
      have := lenpos a ha'
      omega
    · rw [hv, hg, ha]; exact Emb_start emb info hk
    · intro i hi
      rw [List.mem_singleton.1 hi, hk, List.length_append]
      exact Int.ofNat_le.2 (Nat.le_add_right _ _)

theorem QInv_pop {n : Nat} {q' : QState} {out : List Cell} (inv : QInv K0 q tl)
    (h : popBuffer n q = .ok (out, q')) :
    QInv K0 q' (tl ++ out) ∧ q'.removed = q.removed ∧
      ∃ new, q'.added = q.added ++ new ∧ ∀ i ∈ new, (tl.length : Int) ≤ K0 + i.k := by
  refine pop_induction (P := fun q1 cs => QInv K0 q1 (tl ++ cs) ∧ q1.removed = q.removed ∧
      ∃ new, q1.added = q.added ++ new ∧ ∀ i ∈ new, (tl.length : Int) ≤ K0 + i.k)
    ?_ inv.wf ⟨by simpa using inv, rfl, [], (List.append_nil _).symm, fun _ hi => nomatch hi⟩ h
  intro q1 q2 cs c ⟨i1, r1, n1, a1, l1⟩ ht
  obtain ⟨i2, r2, n2, a2, l2⟩ := QInv_tick i1 ht
  refine ⟨by simpa using i2, r2.trans r1, n1 ++ n2, by rw [a2, a1, List.append_assoc], fun i hi => ?_⟩
  rcases List.mem_append.1 hi with h1 | h1
  · exact l1 i h1
  · have := l2 i h1
    rw [List.length_append] at this
    exact Int.le_trans (Int.ofNat_le.2 (Nat.le_add_right _ _)) this

/-- `pause(m)`: the device truncates the timeline at `K0 + m`; the trials that stay logged end by `m` -/
theorem QInv_pause_some (inv : QInv K0 q tl) (m : Int)
    (hm : m ≤ q.samples) (h0 : 0 ≤ K0 + m) (hdur : ∀ i ∈ q.added, (i.len : Int) ≤ i.dur) :
    QInv K0 (pause (some m) q).1 (tl.take (K0 + m).toNat) := by
  obtain ⟨ha, hg, hr, hs, hd, hp, hsm⟩ := pause_some_fields m q hm
  have hM : (K0 + m).toNat ≤ tl.length := by have := inv.len; omega
  refine ⟨WF_pause (some m) inv.wf, Once_pause (some m) inv.once, ?_, ?_, by rw [ha]; exact inv.uid,
    ?_, ?_, ?_⟩
  · rw [hsm, List.length_take, Nat.min_eq_left hM]; exact Int.toNat_of_nonneg h0
  · intro _ src hsrc; rw [hs] at hsrc; cases hsrc
  · intro i hi; rw [hg] at hi; exact inv.lenpos i (List.mem_filter.1 hi).1
  · rw [hg]; exact inv.sorted.sublist List.filter_sublist
  · have hrest : rest (pause (some m) q).1 = [] := by simp [rest, hs, hd, zeros]
    rw [hrest, List.append_nil, hg, ha, ← List.take_append_of_le_length (l₂ := rest q) hM]
    apply Emb_trunc inv.emb
    · intro i hi
      simp only [List.mem_filter, endsAfter, Bool.not_eq_true', decide_eq_false_iff_not] at hi
      have := hdur i (inv.emb.gensub i hi.1)
      exact ⟨hi.1, by omega⟩
    · rw [List.length_append]; exact Nat.le_trans hM (Nat.le_add_right _ _)

theorem QInv_pause_none (inv : QInv K0 q tl)
    (hi : idle q = true) : QInv K0 (pause none q).1 tl :=
  ⟨WF_pause none inv.wf, Once_pause none inv.once, inv.len, fun _ => (idle_iff q).1 hi, inv.uid,
    inv.lenpos, inv.sorted, inv.emb⟩

theorem QInv_resume_none (inv : QInv K0 q tl) :
    QInv K0 (resume none q) tl :=
  ⟨WF_resume none inv.wf, Once_resume none inv.once, inv.len, fun h => Bool.noConfusion h, inv.uid,
    inv.lenpos, inv.sorted, inv.emb⟩

theorem QInv_resume_some (inv : QInv K0 q tl) (m : Int)
    (hm : q.samples ≤ m) (hi : m = q.samples ∨ idle q = true) :
    QInv K0 (resume (some m) q) (tl ++ zeros (m - q.samples).toNat) := by
  refine ⟨WF_resume (some m) inv.wf, Once_resume (some m) inv.once, ?_, fun h => Bool.noConfusion h,
    inv.uid, inv.lenpos, inv.sorted, ?_⟩
  · have := inv.len
    simp only [resume, List.length_append, zeros, List.length_replicate]
    push_cast; omega
  · rw [resume_view q tl m hi]
    exact Emb_zeros inv.emb _

end

end Psi.E2E

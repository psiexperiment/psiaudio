import PsiProofs.Helper.C12_Stages3
/-! The restart signal (`Ellipsis`) of `blocked` / `discard`: a run over several streams separated by the signal is the
signal-separated sequence of the runs of a freshly created stage over each stream. -/
namespace Psi.Stages
variable {α β ρ χ μ S τ σ I O : Type}

theorem runStage_withRestart_data (step : σ → I → Except Err (List O × σ)) (onR : σ → σ) :
    ∀ (l : List I) (s : σ),
    runStage (withRestart step onR) s (l.map Sig.data)
      = (runStage step s l).map fun p => (p.1.map Sig.data, p.2) := by
  intro l
  induction l with
  | nil => intro _; rfl
  | cons x xs ih =>
    intro s
    simp only [runStage_eq_run, List.map_cons]
    cases hx : step s x with
    | error e =>
      have hx' : withRestart step onR s (.data x) = .error e := by simp only [withRestart, hx]
      rw [StagesExt.run_cons_error hx, StagesExt.run_cons_error hx']; rfl
    | ok p =>
      have hx' : withRestart step onR s (.data x) = .ok (p.1.map Sig.data, p.2) := by simp only [withRestart, hx]
      rw [StagesExt.run_cons hx, StagesExt.run_cons hx', ← runStage_eq_run, ← runStage_eq_run, ih]
      cases runStage step p.2 xs <;> simp only [Except.map, List.map_append]

structure Seg (α ρ χ μ : Type) where
  ann : Ann ρ χ μ
  s0 : Int
  chunks : List (List α)

def Seg.stream (sg : Seg α ρ χ μ) : List (PD α ρ χ μ) := Stages.stream sg.ann sg.s0 sg.chunks

def restartInput (sg0 : Seg α ρ χ μ) (rest : List (Seg α ρ χ μ)) : List (Sig (PD α ρ χ μ)) :=
  sg0.stream.map Sig.data ++ rest.flatMap fun sg => Sig.restart :: sg.stream.map Sig.data

def restartOutput (bs0 : List (PD β ρ χ μ)) (bss : List (List (PD β ρ χ μ))) : List (Sig (PD β ρ χ μ)) :=
  bs0.map Sig.data ++ bss.flatMap fun bs => Sig.restart :: bs.map Sig.data

def AllPairs {A B : Type} (R : A → B → Prop) : List A → List B → Prop
  | [], [] => True
  | a :: l, b :: l' => R a b ∧ AllPairs R l l'
  | _, _ => False

theorem AllPairs.imp {A B : Type} {R R' : A → B → Prop} (h : ∀ a b, R a b → R' a b) {l : List A} {l' : List B}
    (hl : AllPairs R l l') : AllPairs R' l l' := by
  induction l generalizing l' with
  | nil => cases l' with
    | nil => trivial
    | cons _ _ => exact hl.elim
  | cons a l ih => cases l' with
    | nil => exact hl.elim
    | cons b l' => exact ⟨h _ _ hl.1, ih hl.2⟩

section
variable (step : σ → PD α ρ χ μ → Except Err (List (PD β ρ χ μ) × σ)) (onR : σ → σ) (init : σ)
  (Inv : σ → Prop) (P : Seg α ρ χ μ → List (PD β ρ χ μ) → Prop)
  (hpres : ∀ st d o st', Inv st → step st d = .ok (o, st') → Inv st')
  (hR : ∀ st, Inv st → Inv (onR st))
  (hfresh : ∀ st, Inv st → ∀ sg : Seg α ρ χ μ,
    outputs (runStage step (onR st) sg.stream) = outputs (runStage step init sg.stream))
  (hok : ∀ sg : Seg α ρ χ μ, ∃ bs, outputs (runStage step init sg.stream) = .ok bs ∧ P sg bs)
include hpres hR hfresh hok

/-- `Inv` is an invariant of the carry state; after the restart branch the stage emits on every stream what a fresh
stage emits (`hfresh`), and a fresh stage never raises on a stream, emitting something of which `P` holds (`hok`).
Stated from any invariant state `st` in the middle of a stream (rest `l`), which is what the induction needs. -/
theorem restart_segments : ∀ (rest : List (Seg α ρ χ μ)) (st : σ) (l : List (PD α ρ χ μ)) (bs : List (PD β ρ χ μ)),
    Inv st → outputs (runStage step st l) = .ok bs →
    ∃ bss, outputs (runStage (withRestart step onR) st
        (l.map Sig.data ++ rest.flatMap fun sg => Sig.restart :: sg.stream.map Sig.data))
        = .ok (bs.map Sig.data ++ bss.flatMap fun bs => Sig.restart :: bs.map Sig.data)
      ∧ AllPairs (fun sg bs => outputs (runStage step init sg.stream) = .ok bs ∧ P sg bs) rest bss := by
  intro rest
  induction rest with
  | nil =>
    intro st l bs _ hl
    obtain ⟨s1, hrun⟩ := outputs_ok_iff.1 hl
    refine ⟨[], ?_, trivial⟩
    simp only [List.flatMap_nil, List.append_nil]
    rw [runStage_withRestart_data, hrun]; rfl
  | cons sg rest ih =>
    intro st l bs hst hl
    obtain ⟨s1, hrun⟩ := outputs_ok_iff.1 hl
    have hs1 : Inv s1 := by
      rw [runStage_eq_run] at hrun
      exact StagesExt.run_inv Inv hpres _ hst hrun
    obtain ⟨bs', hbs', hP⟩ := hok sg
    obtain ⟨bss, hrest, hF⟩ := ih (onR s1) sg.stream bs' (hR s1 hs1) ((hfresh s1 hs1 sg).trans hbs')
    obtain ⟨s2, hrest⟩ := outputs_ok_iff.1 hrest
    refine ⟨bs' :: bss, outputs_ok_iff.2 ⟨s2, ?_⟩, ⟨hbs', hP⟩, hF⟩
    have hsig : withRestart step onR s1 Sig.restart = .ok ([Sig.restart], onR s1) := rfl
    have hdata := runStage_withRestart_data step onR l st
    rw [hrun] at hdata
    rw [List.flatMap_cons, List.cons_append, runStage_append _ _ hdata, runStage_eq_run, StagesExt.run_cons hsig,
      ← runStage_eq_run, hrest]
    rfl

theorem restart_run (hinit : Inv init) (sg0 : Seg α ρ χ μ) (rest : List (Seg α ρ χ μ)) :
    ∃ bs0 bss,
      outputs (runStage (withRestart step onR) init (restartInput sg0 rest)) = .ok (restartOutput bs0 bss)
      ∧ AllPairs (fun sg bs => outputs (runStage step init sg.stream) = .ok bs ∧ P sg bs) (sg0 :: rest) (bs0 :: bss) := by
  obtain ⟨bs0, hbs0, hP0⟩ := hok sg0
  obtain ⟨bss, hrun, hF⟩ := restart_segments step onR init Inv P hpres hR hfresh hok rest init sg0.stream bs0 hinit hbs0
  exact ⟨bs0, bss, hrun, ⟨hbs0, hP0⟩, hF⟩

end

/-! `blocked`: blocks of exactly `b` are determined by what they carry -/

theorem Emits.eq_nil_of_len {bs : List (PD β ρ χ μ)} {u t : Int} {a : Ann ρ χ μ} (b : Nat) (hb : 0 < b)
    (h : Emits bs [] u t a) (hl : ∀ blk ∈ bs, blk.len = b) : bs = [] := by
  cases bs with
  | nil => rfl
  | cons c bs =>
    have h1 := h.data
    rw [outData_cons] at h1
    have := hl c List.mem_cons_self
    rw [PD.len, (List.append_eq_nil_iff.mp h1).1] at this
    exact absurd this.symm (Nat.ne_of_gt hb)

theorem Emits.unique_of_len {a : Ann ρ χ μ} (b : Nat) (hb : 0 < b) :
    ∀ {bs bs' : List (PD β ρ χ μ)} {x : List β} {t : Int}, Emits bs x 1 t a → Emits bs' x 1 t a →
      (∀ blk ∈ bs, blk.len = b) → (∀ blk ∈ bs', blk.len = b) → bs = bs' := by
  intro bs
  induction bs with
  | nil =>
    intro bs' x t h h' _ hl'
    have hx := h.data; subst hx
    exact (h'.eq_nil_of_len b hb hl').symm
  | cons c bs ih =>
    intro bs' x t h h' hl hl'
    cases bs' with
    | nil =>
      have hx := h'.data; subst hx
      exact h.eq_nil_of_len b hb hl
    | cons c' bs' =>
      have hx := h.data.trans h'.data.symm
      rw [outData_cons, outData_cons] at hx
      obtain ⟨hd, hrest⟩ := List.append_inj hx ((hl c List.mem_cons_self).trans (hl' c' List.mem_cons_self).symm)
      have hcc : c = c' := by
        obtain ⟨d1, s1, a1⟩ := c
        obtain ⟨d2, s2, a2⟩ := c'
        rw [PD.mk.injEq]
        exact ⟨hd, h.contig.1.trans h'.contig.1.symm,
          (h.ann _ List.mem_cons_self).trans (h'.ann _ List.mem_cons_self).symm⟩
      subst hcc
      congr 1
      exact ih ⟨rfl, h.contig.2, fun d hd => h.ann d (List.mem_cons_of_mem _ hd)⟩
        ⟨hrest.symm, h'.contig.2, fun d hd => h'.ann d (List.mem_cons_of_mem _ hd)⟩
        (fun d hd => hl d (List.mem_cons_of_mem _ hd)) (fun d hd => hl' d (List.mem_cons_of_mem _ hd))

/-- after the restart branch (`data = []`, stale counter `n < b`) `blocked` emits what a fresh `blocked` emits: both
emit the same samples in blocks of exactly `b` -/
theorem blocked_restart_fresh (b : Nat) (hb : 0 < b) (st : BlockedSt α ρ χ μ) (hst : st.n < b)
    (sg : Seg α ρ χ μ) :
    outputs (runStage (blockedStep b) { st with data := [] } sg.stream)
      = outputs (runStage (blockedStep b) {} sg.stream) := by
  obtain ⟨bs, h1, h2⟩ := blocked_run b hb sg.ann sg.chunks [] sg.s0 sg.s0 { st with data := [] }
    (Or.inl ⟨rfl, rfl⟩) (Int.add_zero _).symm (Nat.zero_le _) hst
  obtain ⟨bs', h1', h2'⟩ := blocked_run b hb sg.ann sg.chunks [] sg.s0 sg.s0 ({} : BlockedSt α ρ χ μ)
    (Or.inl ⟨rfl, rfl⟩) (Int.add_zero _).symm (Nat.le_refl _) hb
  rw [Seg.stream, h1, h1', Emits.unique_of_len b hb h2 h2' (blocked_len b h1) (blocked_len b h1')]

/-- `none` marks a forwarded restart signal -/
def sigSamples : List (Sig (PD β ρ χ μ)) → List (Option β)
  | [] => []
  | .restart :: l => none :: sigSamples l
  | .data b :: l => b.data.map some ++ sigSamples l

theorem sigSamples_append (l l' : List (Sig (PD β ρ χ μ))) :
    sigSamples (l ++ l') = sigSamples l ++ sigSamples l' := by
  induction l with
  | nil => rfl
  | cons x l ih => cases x <;> simp [sigSamples, ih]

theorem sigSamples_data (bs : List (PD β ρ χ μ)) : sigSamples (bs.map Sig.data) = (outData bs).map some := by
  induction bs with
  | nil => rfl
  | cons b bs ih => simp [sigSamples, ih, outData]

def restartSpec (spec : List α → List β) (x0 : List α) (xs : List (List α)) : List (Option β) :=
  (spec x0).map some ++ xs.flatMap fun x => none :: (spec x).map some

theorem sigSamples_restartOutput (spec : List α → List β) (rest : List (Seg α ρ χ μ))
    (bss : List (List (PD β ρ χ μ))) (h : AllPairs (fun sg bs => outData bs = spec sg.chunks.flatten) rest bss) :
    sigSamples (bss.flatMap fun bs => Sig.restart :: bs.map Sig.data)
      = (rest.map (·.chunks.flatten)).flatMap fun x => none :: (spec x).map some := by
  induction rest generalizing bss with
  | nil => cases bss with
    | nil => rfl
    | cons _ _ => exact h.elim
  | cons sg rest ih => cases bss with
    | nil => exact h.elim
    | cons bs bss =>
      simp only [List.flatMap_cons, List.map_cons, List.cons_append, sigSamples, sigSamples_append,
        sigSamples_data, h.1, ih bss h.2]

end Psi.Stages

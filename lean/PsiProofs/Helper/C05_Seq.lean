import PsiProofs.Helper.C05_SeqDefs
/-!
Helper for C05, per-request form: one call and whole runs of `extract_epochs` on a history whose
keys may be re-used (`OpValidSeq`), projected on one key.
-/
namespace Psi.Extract

def keptOf {α} (st : State α) (op : Op α) : Pending α :=
  st.pending.filter (fun c => !op.rems.contains c.req.key)

def skipOf {α} (st : State α) (op : Op α) : List Nat := (removeAll st.pending op.rems).2

def prior1Of {α} (st : State α) (op : Op α) : List (Nat × List α) := st.prior ++ [(st.tlb, op.chunk)]

def EpochOK {α} (S : List α) (L : Nat) (rs : List Request) (e : Epoch α) : Prop :=
  e = epochOf S e.req ∧ e.req ∈ rs ∧ e.data.length = L

/-- the model's captures pending under each key are the spec's open requests -/
def OpenLink {α} (hist : List (Op α)) (st : State α) : Prop :=
  ∀ κ, (pendK st κ).map (·.req) = (openAfter κ hist).toList

def takenSeq {α} (st : State α) (op : Op α) : List Request := takeSkip (skipOf st op) op.reqs

def pendingSeq {α} (st : State α) (op : Op α) : Pending α :=
  (keptOf st op).filterMap (feedMore st.tlb op.chunk) ++ (takenSeq st op).filterMap (intakeMore (prior1Of st op))

def batchSeq {α} (st : State α) (op : Op α) : List (Epoch α) :=
  (keptOf st op).filterMap (feedStop st.tlb op.chunk) ++ (takenSeq st op).filterMap (intakeStop (prior1Of st op))

def fireSeq {α} (st : State α) (op : Op α) : Bool :=
  op.complete && (pendingSeq st op).isEmpty && !st.doneFired

/-- The state after a valid call.  `prior` is written as the prune of the whole history rather than
as the model's `prune … (st.prior ++ [chunk])`, so that `Inv.prior` holds of it by `rfl`; that the two
agree is `prune_prune`. -/
def nextSeq {α} (B : Nat) (hist : List (Op α)) (st : State α) (op : Op α) : State α :=
  { st with tlb := st.tlb + op.chunk.length, pending := pendingSeq st op,
            prior := prune B (total (hist ++ [op])) (withStarts 0 (hist ++ [op])),
            queue := [], doneFired := st.doneFired || fireSeq st op }

theorem intake_facts_vis {α} (S : List α) (B L : Nat) (hist : List (Op α)) (st : State α) (op : Op α)
    (hinv : Inv S B L hist st)
    (hch : op.chunk = slice S (total hist) op.chunk.length) (r : Request)
    (hvis : ((lookbackStart B hist : Nat) : Int) ≤ r.s) :
      (r.s.toNat + r.len ≤ total hist + op.chunk.length →
        intakeStop (prior1Of st op) r = some (epochOf S r) ∧ intakeMore (prior1Of st op) r = none) ∧
      (total hist + op.chunk.length < r.s.toNat + r.len →
        intakeStop (prior1Of st op) r = none ∧
          ∃ c', intakeMore (prior1Of st op) r = some c' ∧ c'.req = r ∧
            CapInv S (total hist + op.chunk.length) c') := by
  have hT := hinv.tlb
  have hcontig0 : Contig S (lookbackStart B hist) st.prior (total hist) := by
    rw [hinv.prior]
    have := contig_withStarts S 0 hist hinv.chunks
    simp only [Nat.zero_add] at this
    exact contig_dropWhile S 0 (total hist) _ _ this
  have hcontig : Contig S (lookbackStart B hist) (prior1Of st op) (total hist + op.chunk.length) := by
    apply contig_append S _ (total hist) _ _ _ hcontig0
    simp only [Contig, hT]
    exact ⟨trivial, hch, trivial⟩
  have hne : prior1Of st op ≠ [] := by simp [prior1Of]
  have h0 : (0 : Int) ≤ r.s := Int.le_trans (Int.natCast_nonneg _) hvis
  have hs : r.s = ((r.s.toNat : Nat) : Int) := (Int.toNat_of_nonneg h0).symm
  have hle : lookbackStart B hist ≤ r.s.toNat := (Int.le_toNat h0).2 hvis
  have hc : CapInv S (lookbackStart B hist) (Capture.new r : Capture α) := capInv_new S _ r _ hs hle
  constructor
  · intro h
    have hf := (replay_spec S _ _ _ (Capture.new r) hcontig hc).1 hne h
    exact ⟨congrArg Fed.stop? hf, congrArg Fed.more? hf⟩
  · intro h
    obtain ⟨c', hf, hr, hi⟩ := (replay_spec S _ _ _ (Capture.new r) hcontig hc).2 h
    exact ⟨congrArg Fed.stop? hf, c', congrArg Fed.more? hf, hr, hi⟩

theorem seq_project {α} (st : State α) (op : Op α) (κ : Nat) :
    (pendingSeq st op).filter (fun c => c.req.key == κ) =
      ((if (!op.rems.contains κ) then pendK st κ else []).filterMap (feedMore st.tlb op.chunk)) ++
      (((addsK κ op).drop ((skipOf st op).count κ)).filterMap (intakeMore (prior1Of st op))) ∧
    (batchSeq st op).filter (fun e => e.req.key == κ) =
      ((if (!op.rems.contains κ) then pendK st κ else []).filterMap (feedStop st.tlb op.chunk)) ++
      (((addsK κ op).drop ((skipOf st op).count κ)).filterMap (intakeStop (prior1Of st op))) := by
  have e1 : ((keptOf st op).filterMap (feedMore st.tlb op.chunk)).filter (fun c => c.req.key == κ) =
      ((keptOf st op).filter (fun c => c.req.key == κ)).filterMap (feedMore st.tlb op.chunk) :=
    filter_key_filterMap _ _ (fun c : Capture α => c.req.key) (fun c : Capture α => c.req.key) _
      (fun c _ c' hf => congrArg Request.key ((Fed.more?_req _ c' hf).trans (feed_req c _ _)))
  have e2 : ((keptOf st op).filterMap (feedStop st.tlb op.chunk)).filter (fun e => e.req.key == κ) =
      ((keptOf st op).filter (fun c => c.req.key == κ)).filterMap (feedStop st.tlb op.chunk) :=
    filter_key_filterMap _ _ (fun c : Capture α => c.req.key) (fun e : Epoch α => e.req.key) _
      (fun c _ e hf => congrArg Request.key ((Fed.stop?_req _ e hf).trans (feed_req c _ _)))
  have e3 : ((takenSeq st op).filterMap (intakeMore (prior1Of st op))).filter (fun c => c.req.key == κ) =
      ((takenSeq st op).filter (fun q => q.key == κ)).filterMap (intakeMore (prior1Of st op)) :=
    filter_key_filterMap _ _ (fun q : Request => q.key) (fun c : Capture α => c.req.key) _
      (fun q _ c' hf => congrArg Request.key ((Fed.more?_req _ c' hf).trans (replay_req _ _)))
  have e4 : ((takenSeq st op).filterMap (intakeStop (prior1Of st op))).filter (fun e => e.req.key == κ) =
      ((takenSeq st op).filter (fun q => q.key == κ)).filterMap (intakeStop (prior1Of st op)) :=
    filter_key_filterMap _ _ (fun q : Request => q.key) (fun e : Epoch α => e.req.key) _
      (fun q _ e hf => congrArg Request.key ((Fed.stop?_req _ e hf).trans (replay_req _ _)))
  have k1 : (keptOf st op).filter (fun c => c.req.key == κ) =
      if (!op.rems.contains κ) then pendK st κ else [] :=
    filter_filter_key st.pending (fun c : Capture α => c.req.key) (fun k => !op.rems.contains k) κ
  have k2 : (takenSeq st op).filter (fun q => q.key == κ) = (addsK κ op).drop ((skipOf st op).count κ) :=
    takeSkip_filter _ _ κ
  -- the rewrites make the two sides of each equation the same term, so `simp only` leaves `True ∧ True`
  simp only [pendingSeq, batchSeq, List.filter_append, e1, e2, e3, e4, k1, k2]
  exact ⟨trivial, trivial⟩

theorem openLink_cases {α} {hist : List (Op α)} {st : State α} (h : OpenLink hist st) (κ : Nat) :
    (openAfter κ hist = none ∧ pendK st κ = []) ∨ (∃ c, openAfter κ hist = some c.req ∧ pendK st κ = [c]) := by
  have hκ := h κ
  cases ho : openAfter κ hist with
  | none => rw [ho] at hκ; exact Or.inl ⟨rfl, List.map_eq_nil_iff.1 hκ⟩
  | some r =>
    rw [ho] at hκ
    obtain ⟨c, hc, hr⟩ := List.map_eq_singleton_iff.1 hκ
    exact Or.inr ⟨c, by rw [hr], hc⟩

theorem fed_one {α} (S : List α) (T : Nat) (ch : List α) (c : Capture α)
    (hch : ch = slice S T ch.length) (hc : CapInv S T c) :
    ([c].filterMap (feedMore T ch)).map (·.req) =
        ((some c.req).filter (fun r => !doneAt r (T + ch.length))).toList ∧
    [c].filterMap (feedStop T ch) =
        ((some c.req).filter (fun r => doneAt r (T + ch.length))).toList.map (epochOf S) ∧
    (∀ c' ∈ [c].filterMap (feedMore T ch), CapInv S (T + ch.length) c') := by
  by_cases hd : c.req.s.toNat + c.req.len ≤ T + ch.length
  · have hf := (capture_acc_inv S T ch.length ch c hch rfl hc).1 hd
    have h1 : feedStop T ch c = some (epochOf S c.req) := congrArg Fed.stop? hf
    have h2 : feedMore T ch c = none := congrArg Fed.more? hf
    have hda : doneAt c.req (T + ch.length) = true := decide_eq_true hd
    simp only [List.filterMap_cons, List.filterMap_nil, h1, h2, Option.filter_some, hda, Bool.not_true,
      Bool.false_eq_true, if_false, if_true, Option.toList_some, Option.toList_none, List.map_cons, List.map_nil,
      true_and]
    intro c' hc'; cases hc'
  · obtain ⟨c', hf, h3, h4⟩ := (capture_acc_inv S T ch.length ch c hch rfl hc).2 (Nat.lt_of_not_le hd)
    have h1 : feedStop T ch c = none := congrArg Fed.stop? hf
    have h2 : feedMore T ch c = some c' := congrArg Fed.more? hf
    have hda : doneAt c.req (T + ch.length) = false := decide_eq_false hd
    simp only [List.filterMap_cons, List.filterMap_nil, h1, h2, Option.filter_some, hda, Bool.not_false,
      Bool.false_eq_true, if_false, if_true, Option.toList_some, Option.toList_none, List.map_cons, List.map_nil,
      h3, true_and]
    intro c'' hc''
    rw [List.mem_singleton.1 hc'']; exact h4

theorem seq_key {α} (S : List α) (B L : Nat) (hist : List (Op α)) (st : State α) (op : Op α)
    (hinv : Inv S B L hist st) (hopen : OpenLink hist st) (hv : OpValidSeq B L hist op)
    (hch : op.chunk = slice S (total hist) op.chunk.length) (κ : Nat) :
    ((pendingSeq st op).filter (fun c => c.req.key == κ)).map (·.req) =
        (keyNext κ (total hist) (openAfter κ hist) op).toList ∧
    (batchSeq st op).filter (fun e => e.req.key == κ) =
        (keyEmit κ (total hist) (openAfter κ hist) op).toList.map (epochOf S) ∧
    (∀ c' ∈ (pendingSeq st op).filter (fun c => c.req.key == κ),
        CapInv S (total hist + op.chunk.length) c') := by
  obtain ⟨p1, p2⟩ := seq_project st op κ
  have hlink := openLink_cases hopen κ
  have hhas : hasKey st.pending κ = (openAfter κ hist).isSome := by
    rw [hasKey_eq, ← pendK]
    rcases hlink with ⟨ho, hp⟩ | ⟨c, ho, hp⟩ <;> rw [ho, hp] <;> rfl
  have hdrop : (addsK κ op).drop ((skipOf st op).count κ) = takenK κ (openAfter κ hist) op := by
    rw [skipOf, removeAll_skip_count, hhas]; rfl
  have hF : ((if (!op.rems.contains κ) = true then pendK st κ else []) = [] ∧
        keptK κ (openAfter κ hist) op = none) ∨
      (∃ c, (if (!op.rems.contains κ) = true then pendK st κ else []) = [c] ∧
        keptK κ (openAfter κ hist) op = some c.req ∧ c ∈ st.pending) := by
    by_cases hk : κ ∈ op.rems
    · rw [if_neg (by simpa using hk), keptK, if_pos hk]; exact Or.inl ⟨rfl, rfl⟩
    · rw [if_pos (by simpa using hk), keptK, if_neg hk]
      rcases hlink with ⟨ho, hp⟩ | ⟨c, ho, hp⟩
      · exact Or.inl ⟨hp, ho⟩
      · have : c ∈ pendK st κ := by rw [hp]; exact List.mem_singleton_self c
        exact Or.inr ⟨c, hp, ho, (List.mem_filter.1 this).1⟩
  rw [hdrop] at p1 p2
  rw [p1, p2, hinv.tlb]
  obtain ⟨hle1, hkeptnone⟩ := hv.reuse κ
  cases htk : takenK κ (openAfter κ hist) op with
  | nil =>
    simp only [keyNext, keyEmit, htk, List.filterMap_nil, List.append_nil]
    rcases hF with ⟨hF, hk⟩ | ⟨c, hF, hk, hmem⟩
    · rw [hF, hk]; exact ⟨rfl, rfl, fun c' hc' => by cases hc'⟩
    · rw [hF, hk]
      exact fed_one S (total hist) op.chunk c hch (hinv.caps c hmem).1
  | cons r rest =>
    obtain rfl : rest = [] := by
      rw [htk] at hle1
      exact List.length_eq_zero_iff.1 (Nat.le_zero.1 (Nat.le_of_succ_le_succ hle1))
    have hkn := hkeptnone (by rw [htk]; exact List.cons_ne_nil _ _)
    have hF' : (if (!op.rems.contains κ) = true then pendK st κ else []) = [] := by
      rcases hF with ⟨hF, _⟩ | ⟨c, _, hk, _⟩
      · exact hF
      · rw [hk] at hkn; cases hkn
    rw [hF']
    simp only [List.filterMap_nil, List.nil_append, List.filterMap_cons, keyNext, keyEmit, htk]
    have hrmem : r ∈ op.reqs := (takenK_sub κ _ op r (by rw [htk]; exact List.mem_cons_self)).1
    have hfacts := intake_facts_vis S B L hist st op hinv hch r (hv.visible r hrmem)
    by_cases hd : r.s.toNat + r.len ≤ total hist + op.chunk.length
    · obtain ⟨h1, h2⟩ := hfacts.1 hd
      have hda : doneAt r (total hist + op.chunk.length) = true := decide_eq_true hd
      simp only [h1, h2, hda, if_true]
      exact ⟨rfl, rfl, by intro c' hc'; cases hc'⟩
    · obtain ⟨h1, c', h2, h3, h4⟩ := hfacts.2 (Nat.lt_of_not_le hd)
      have hda : doneAt r (total hist + op.chunk.length) = false := decide_eq_false hd
      simp only [h1, h2, hda]
      refine ⟨by simp [h3], rfl, ?_⟩
      intro c'' hc''
      rw [List.mem_singleton.1 hc'']; exact h4

/-- the request was open before, hence pending, or the call takes it in -/
theorem key_sound {α} (S : List α) (B L : Nat) (hist : List (Op α)) (st : State α) (op : Op α)
    (hinv : Inv S B L hist st) (hopen : OpenLink hist st) (hv : OpValidSeq B L hist op) (κ : Nat) (r : Request)
    (h : keyEmit κ (total hist) (openAfter κ hist) op = some r ∨
      keyNext κ (total hist) (openAfter κ hist) op = some r) :
    r.len = L ∧ r ∈ allReqs (hist ++ [op]) := by
  rw [allReqs_append]
  rcases key_origin κ _ _ op r h with ⟨hl, _, _⟩ | ht
  · rcases openLink_cases hopen κ with ⟨ho, _⟩ | ⟨c, ho, hp⟩
    · rw [ho] at hl; cases hl
    · have hc : c ∈ pendK st κ := hp ▸ List.mem_singleton_self c
      obtain rfl : c.req = r := Option.some.inj (ho.symm.trans hl)
      have := (hinv.caps c (List.mem_filter.1 hc).1).2
      exact ⟨this.1, List.mem_append_left _ this.2⟩
  · have hr := (takenK_sub κ _ op r ht).1
    exact ⟨hv.len r hr, List.mem_append_right _ (List.mem_flatMap.2 ⟨op, List.mem_singleton_self op, hr⟩)⟩

theorem step_seq {α} (S : List α) (B L : Nat) (hist : List (Op α)) (st : State α) (op : Op α)
    (hinv : Inv S B L hist st) (hopen : OpenLink hist st) (hv : OpValidSeq B L hist op)
    (hch : op.chunk = slice S (total hist) op.chunk.length)
    (hbound : total hist + op.chunk.length ≤ S.length) :
    step st op = (nextSeq B hist st op, .ok (batchSeq st op) (fireSeq st op)) ∧
    Inv S B L (hist ++ [op]) (step st op).1 ∧ OpenLink (hist ++ [op]) (step st op).1 ∧
    (∀ e ∈ batchSeq st op, EpochOK S L (allReqs (hist ++ [op])) e) ∧
    (∀ κ, delivK κ (step st op).2 =
      (keyEmit κ (total hist) (openAfter κ hist) op).toList.map (epochOf S)) := by
  have hT := hinv.tlb
  have hkey := seq_key S B L hist st op hinv hopen hv hch
  -- an epoch of the batch is found under its own key, where `seq_key` says what it is
  have hbatch : ∀ e ∈ batchSeq st op, EpochOK S L (allReqs (hist ++ [op])) e := by
    intro e he
    have hm : e ∈ (batchSeq st op).filter (fun e' => e'.req.key == e.req.key) :=
      List.mem_filter.2 ⟨he, beq_self_eq_true _⟩
    rw [(hkey e.req.key).2.1] at hm
    obtain ⟨r, hr, rfl⟩ := List.mem_map.1 hm
    have hr' := Option.mem_toList.1 hr
    obtain ⟨hl, hmem⟩ := key_sound S B L hist st op hinv hopen hv _ r (Or.inl hr')
    refine ⟨rfl, hmem, ?_⟩
    show (slice S r.s.toNat r.len).length = L
    rw [slice_length _ _ _ (Nat.le_trans (keyEmit_done _ _ _ op r hr') hbound), hl]
  have hmerge : mergeOk (batchSeq st op) = true :=
    mergeOk_uniform L _ (fun e he => ⟨by rw [(hbatch e he).1]; rfl, (hbatch e he).2.2⟩)
  have hnd : ((pendingSeq st op).map (·.req.key)).Nodup := by
    apply nodup_of_filter_le_one _ (fun c : Capture α => c.req.key)
    intro κ
    have := congrArg List.length (hkey κ).1
    simp only [List.length_map] at this
    rw [this]
    cases keyNext κ (total hist) (openAfter κ hist) op <;> simp
  have hprior : prune st.bufferSamples (st.tlb + op.chunk.length) (st.prior ++ [(st.tlb, op.chunk)]) =
      prune B (total (hist ++ [op])) (withStarts 0 (hist ++ [op])) := by
    rw [hinv.buf, hinv.prior, hT, prune_prune B _ _ _ _ (Nat.le_add_right _ _), withStarts_append,
      total_append, total_single]
    simp [withStarts]
  have hstep : step st op = (nextSeq B hist st op, .ok (batchSeq st op) (fireSeq st op)) := by
    have hi := intakeAll_seq (prior1Of st op) ((keptOf st op).filterMap (feedMore st.tlb op.chunk))
      (skipOf st op) op.reqs hnd
    rw [step, call_ok st { op with late := [] } (pendingSeq st op)
      ((takenSeq st op).filterMap (intakeStop (prior1Of st op))) hinv.alive
      (by rw [intakeOf, feedAll_eq, removeAll_pending, hinv.queue]; exact hi)
      (by rw [fedOf, feedAll_eq, removeAll_pending]; exact hmerge), hprior, fedOf, feedAll_eq,
      removeAll_pending]
    simp only [nextSeq, batchSeq, fireSeq, keptOf, List.isEmpty_nil, Bool.and_true]
  refine ⟨hstep, ?_, ?_, hbatch, ?_⟩
  · rw [hstep]
    refine ⟨hinv.alive, ?_, hinv.buf, rfl, ?_, hnd, ?_, ?_, rfl⟩
    · simp [nextSeq, hT, total_append, total_single]
    · intro c' hc'
      have hm : c' ∈ (pendingSeq st op).filter (fun c => c.req.key == c'.req.key) :=
        List.mem_filter.2 ⟨hc', beq_self_eq_true _⟩
      have hr : c'.req ∈ (keyNext c'.req.key (total hist) (openAfter c'.req.key hist) op).toList :=
        (hkey c'.req.key).1 ▸ List.mem_map_of_mem hm
      rw [total_append, total_single]
      exact ⟨(hkey c'.req.key).2.2 c' hm,
        key_sound S B L hist st op hinv hopen hv _ c'.req (Or.inr (Option.mem_toList.1 hr))⟩
    · exact chunksOf_append S 0 hist [op] hinv.chunks
        (by simp only [ChunksOf, Nat.zero_add]; exact ⟨hch, hbound, trivial⟩)
    · simp only [total_append, total_single]; exact hbound
  · intro κ
    rw [hstep, openAfter_snoc]
    exact (hkey κ).1
  · intro κ
    rw [hstep]
    exact (hkey κ).2.1

theorem openLink_init {α} (B : Nat) : OpenLink ([] : List (Op α)) (State.init B) := by
  intro κ; simp [pendK, State.init, openAfter, openK]

theorem run_seq {α} (S : List α) (B L : Nat) (ops hist : List (Op α)) (st : State α)
    (hinv : Inv S B L hist st) (hopen : OpenLink hist st) (hv : AllValidSeq B L hist ops)
    (hc : ChunksOf S (total hist) ops) :
    Inv S B L (hist ++ ops) (run st ops).1 ∧ OpenLink (hist ++ ops) (run st ops).1 ∧
    (∀ out ∈ (run st ops).2, ∃ batch fired, out = .ok batch fired ∧
        ∀ e ∈ batch, EpochOK S L (allReqs (hist ++ ops)) e) ∧
    (∀ κ, (run st ops).2.map (delivK κ) =
      (specReqs κ (total hist) (openAfter κ hist) ops).map (fun o => o.toList.map (epochOf S))) := by
  induction ops generalizing hist st with
  | nil => simp [run, specReqs]; exact ⟨hinv, hopen⟩
  | cons op rest ih =>
    simp only [AllValidSeq] at hv
    simp only [ChunksOf] at hc
    obtain ⟨hstep, hinv', hopen', hb, hk⟩ := step_seq S B L hist st op hinv hopen hv.1 hc.1 hc.2.1
    have hc' : ChunksOf S (total (hist ++ [op])) rest := by
      rw [total_append, total_single]; exact hc.2.2
    obtain ⟨i1, i2, i3, i4⟩ := ih (hist ++ [op]) (step st op).1 hinv' hopen' hv.2 hc'
    have happ : hist ++ [op] ++ rest = hist ++ op :: rest := by simp
    simp only [run]
    refine ⟨by rw [← happ]; exact i1, by rw [← happ]; exact i2, ?_, ?_⟩
    · intro out hout
      rcases List.mem_cons.1 hout with h | h
      · refine ⟨batchSeq st op, fireSeq st op, by rw [h, hstep], ?_⟩
        intro e he
        obtain ⟨e1, e2, e3⟩ := hb e he
        refine ⟨e1, ?_, e3⟩
        rw [← happ, allReqs_append]; exact List.mem_append_left _ e2
      · obtain ⟨batch, fired, ho, hall⟩ := i3 out h
        exact ⟨batch, fired, ho, by rw [← happ]; exact hall⟩
    · intro κ
      simp only [List.map_cons, specReqs, hk κ, i4 κ, openAfter_snoc, total_append, total_single]

theorem run_seq_init {α} (B L : Nat) (ops : List (Op α)) (hv : AllValidSeq B L [] ops) :
    OpenLink ops (run (State.init B) ops).1 ∧
    (∀ out ∈ (run (State.init B) ops).2, ∃ batch fired, out = .ok batch fired ∧
        ∀ e ∈ batch, EpochOK (streamOf ops) L (allReqs ops) e) ∧
    (∀ κ, (run (State.init B) ops).2.map (delivK κ) =
      (specReqs κ 0 none ops).map (fun o => o.toList.map (epochOf (streamOf ops)))) :=
  (run_seq (streamOf ops) B L ops [] (State.init B) (inv_init _ B L) (openLink_init B) hv
    (chunksOf_streamOf [] ops)).2

end Psi.Extract

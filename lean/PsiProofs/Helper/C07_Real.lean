import PsiModel.DbField
import Mathlib.Analysis.SpecialFunctions.Log.Base
import Mathlib.Analysis.SpecialFunctions.Pow.Real
import Mathlib.Analysis.SpecialFunctions.Trigonometric.Basic
import Mathlib.Analysis.SpecialFunctions.Complex.Arg
/-!
The real-number instance of `DbField` / `TrigField`: the formulas of `PsiModel/DbField.lean`
evaluated with `Real.logb 10`, `Real.rpow`, `Real.sqrt`, `Real.cos`, `Real.sin`; the `_real` lemmas (by `rfl`)
turn each operation into the Mathlib one.
-/
namespace Psi.Db

noncomputable instance instDbFieldReal : DbField ℝ where
  ofNat n := (n : ℝ)
  exp10 x := (10 : ℝ) ^ x
  log10 x := Real.logb 10 x
  sqrt := Real.sqrt
  ltb a b := decide (a < b)
  eqb a b := decide (a = b)

noncomputable instance instTrigFieldReal : TrigField ℝ where
  cos := Real.cos
  sin := Real.sin
  atan2 y x := Complex.arg ⟨x, y⟩
  pi := Real.pi

@[simp] theorem nat_real (k : ℕ) : (nat k : ℝ) = (k : ℝ) := rfl
@[simp] theorem exp10_real (x : ℝ) : exp10 x = (10 : ℝ) ^ x := rfl
@[simp] theorem log10_real (x : ℝ) : log10 x = Real.logb 10 x := rfl
@[simp] theorem sqrt_real (x : ℝ) : sqrt x = Real.sqrt x := rfl
@[simp] theorem ltb_real (a b : ℝ) : ltb a b = decide (a < b) := rfl
@[simp] theorem eqb_real (a b : ℝ) : eqb a b = decide (a = b) := rfl
@[simp] theorem cos_real (x : ℝ) : cos x = Real.cos x := rfl
@[simp] theorem sin_real (x : ℝ) : sin x = Real.sin x := rfl
@[simp] theorem pi_real : (pi : ℝ) = Real.pi := rfl
@[simp] theorem atan2_real (y x : ℝ) : atan2 y x = Complex.arg ⟨x, y⟩ := rfl

theorem db_real (x r : ℝ) : db x r = 20 * Real.logb 10 (x / r) := by
  simp [db]
theorem db1_real (x : ℝ) : db1 x = 20 * Real.logb 10 x := by
  simp [db1, db]
theorem dbi_real (d r : ℝ) : dbi d r = (10 : ℝ) ^ (d / 20) * r := by
  simp [dbi]
theorem sfOf_real (S L A : ℝ) : sfOf S L A = (10 : ℝ) ^ ((L - S + A) / 20) := by
  simp [sfOf]
theorem pRef_real : (pRef : ℝ) = 20 / 1000000 := by
  simp [pRef]

theorem ten_pos : (0 : ℝ) < 10 := by norm_num
theorem ten_ne_one : (10 : ℝ) ≠ 1 := by norm_num

theorem exp10_log10 {x : ℝ} (hx : 0 < x) : (10 : ℝ) ^ Real.logb 10 x = x :=
  Real.rpow_logb ten_pos ten_ne_one hx

theorem log10_exp10 (x : ℝ) : Real.logb 10 ((10 : ℝ) ^ x) = x :=
  Real.logb_rpow ten_pos ten_ne_one

theorem exp10_pos (x : ℝ) : 0 < (10 : ℝ) ^ x := Real.rpow_pos_of_pos ten_pos x

end Psi.Db

import PsiProofs.Helper.C05_SeqDefs
/-!
Helper for C05: consequences of the two specs (pure list reasoning) — the per-request spec
`specDeliver`/`specPending` of histories with distinct keys, the per-key machine `specReqs`/`openK` of
histories that re-use keys — and how the first is a special case of the second.
-/
namespace Psi.Extract

instance {α} (κ : Nat) (live : Option Request) (op : Op α) : Decidable (KeyOK κ live op) := by
  unfold KeyOK; infer_instance

theorem filter_map_false {β} (l : List β) : (l.map (fun _ => false)).filter (fun b => b) = [] := by
  induction l with
  | nil => rfl
  | cons x xs ih => exact ih

theorem flatten_map_nil {α β} (l : List β) : (l.map (fun _ => ([] : List α))).flatten = [] := by
  induction l with
  | nil => rfl
  | cons x xs ih => exact ih

theorem emit_flatten {α} (S : List α) (r : Request) (l : List Bool) :
    (l.map (emit S r)).flatten = (l.filter (fun b => b)).map (fun _ => epochOf S r) := by
  induction l with
  | nil => rfl
  | cons b bs ih => cases b <;> simp [emit, ih]

theorem specDeliver_removed {α} (r : Request) (T : Nat) (op : Op α) (ops : List (Op α))
    (hrem : r.key ∈ op.rems) : specDeliver r T (op :: ops) = (op :: ops).map (fun _ => false) := by
  simp only [specDeliver, hrem, if_true, List.map_cons]

theorem specDeliver_append {α} (r : Request) (T : Nat) (a b : List (Op α)) :
    specDeliver r T (a ++ b) = specDeliver r T a ++
      (if specPending r T a then specDeliver r (T + total a) b else b.map (fun _ => false)) := by
  induction a generalizing T with
  | nil => rfl
  | cons o os ih =>
    simp only [List.cons_append, specDeliver, specPending, total_cons, ← Nat.add_assoc]
    by_cases hk : r.key ∈ o.rems
    · simp only [hk, if_true, List.map_append, Bool.false_eq_true, if_false, List.cons_append]
    · by_cases hd : r.s.toNat + r.len ≤ T + o.chunk.length
      · simp only [hk, hd, if_true, if_false, List.map_append, Bool.false_eq_true, List.cons_append]
      · simp only [hk, hd, if_false, ih, List.cons_append]

theorem spec_short {α} (r : Request) (T : Nat) (ops : List (Op α))
    (hshort : T + total ops < r.s.toNat + r.len) :
    specDeliver r T ops = ops.map (fun _ => false) ∧
      ((∀ o ∈ ops, r.key ∉ o.rems) → specPending r T ops = true) := by
  induction ops generalizing T with
  | nil => exact ⟨rfl, fun _ => rfl⟩
  | cons o os ih =>
    by_cases hk : r.key ∈ o.rems
    · exact ⟨specDeliver_removed r T o os hk, fun h => absurd hk (h o List.mem_cons_self)⟩
    · rw [total_cons, ← Nat.add_assoc] at hshort
      have hd : ¬ r.s.toNat + r.len ≤ T + o.chunk.length :=
        Nat.not_le.2 (Nat.lt_of_le_of_lt (Nat.le_add_right _ _) hshort)
      obtain ⟨i1, i2⟩ := ih (T + o.chunk.length) hshort
      simp only [specDeliver, specPending, hk, hd, if_false, i1, List.map_cons, true_and]
      exact fun h => i2 (fun o' ho' => h o' (List.mem_cons_of_mem _ ho'))

theorem spec_reach {α} (r : Request) (T : Nat) (seg : List (Op α)) (hne : seg ≠ [])
    (hnorem : ∀ o ∈ seg, r.key ∉ o.rems) (hend : r.s.toNat + r.len ≤ T + total seg) :
    (specDeliver r T seg).filter (fun b => b) = [true] ∧ specPending r T seg = false := by
  induction seg generalizing T with
  | nil => exact absurd rfl hne
  | cons o seg' ih =>
    have hk : r.key ∉ o.rems := hnorem o List.mem_cons_self
    by_cases hle : r.s.toNat + r.len ≤ T + o.chunk.length
    · simp only [specDeliver, specPending, hk, hle, if_true, if_false, List.filter_cons, filter_map_false,
        and_self]
    · rw [total_cons, ← Nat.add_assoc] at hend
      have hne' : seg' ≠ [] := fun h => hle (by rw [h] at hend; exact hend)
      obtain ⟨i1, i2⟩ := ih (T + o.chunk.length) hne' (fun o' ho' => hnorem o' (List.mem_cons_of_mem _ ho')) hend
      simp only [specDeliver, specPending, hk, hle, if_false, List.filter_cons, Bool.false_eq_true, i1, i2,
        and_self]

/-- the list side of `delivered_exact`, in the shape `extract_refines_spec` leaves it -/
theorem spec_once {α β} (S : List α) (r : Request) (pre : List β) (seg post : List (Op α)) (T : Nat)
    (hne : seg ≠ []) (hnorem : ∀ o ∈ seg, r.key ∉ o.rems)
    (hend : r.s.toNat + r.len ≤ T + total seg) :
    (pre.map (fun _ => []) ++ (specDeliver r T (seg ++ post)).map (emit S r)).flatten = [epochOf S r] := by
  obtain ⟨h1, h2⟩ := spec_reach r T seg hne hnorem hend
  rw [List.flatten_append, flatten_map_nil, emit_flatten, specDeliver_append, h2, if_neg Bool.false_ne_true,
    List.filter_append, h1, filter_map_false]
  rfl

/-- the same for `removed_never_delivered` -/
theorem spec_never {α β} (S : List α) (r : Request) (pre : List β) (seg post : List (Op α)) (opi : Op α)
    (T : Nat) (hrem : r.key ∈ opi.rems) (hearly : seg = [] ∨ T + total seg < r.s.toNat + r.len) :
    (pre.map (fun _ => []) ++ (specDeliver r T (seg ++ opi :: post)).map (emit S r)).flatten = [] := by
  have hfalse : specDeliver r T (seg ++ opi :: post) = (seg ++ opi :: post).map (fun _ => false) := by
    rcases hearly with rfl | hshort
    · exact specDeliver_removed r T opi post hrem
    · rw [specDeliver_append, (spec_short r T seg hshort).1, specDeliver_removed r _ opi post hrem,
        ite_self, List.map_append]
  rw [List.flatten_append, flatten_map_nil, emit_flatten, hfalse, filter_map_false]
  rfl

theorem spec_tail_irrelevant {α} (r : Request) (seg post post' : List (Op α)) (T : Nat)
    (hne : seg ≠ []) (hnorem : ∀ o ∈ seg, r.key ∉ o.rems)
    (hend : r.s.toNat + r.len ≤ T + total seg) (hlen : post'.length = post.length) :
    specDeliver r T (seg ++ post') = specDeliver r T (seg ++ post) := by
  rw [specDeliver_append, specDeliver_append, (spec_reach r T seg hne hnorem hend).2,
    if_neg Bool.false_ne_true, if_neg Bool.false_ne_true, List.map_const', List.map_const', hlen]

theorem keyOK_of_no_adds {α} (κ : Nat) (live : Option Request) (op : Op α) (h : addsK κ op = []) :
    KeyOK κ live op := by
  unfold KeyOK takenK; rw [h]; simp

theorem flatten_emit {β} (f : Request → β) (l : List (Option Request)) :
    (l.map (fun o => o.toList.map f)).flatten = (l.filterMap id).map f := by
  induction l with
  | nil => rfl
  | cons o os ih => cases o <;> simp [ih]

theorem addsK_nil_of {α} (κ : Nat) (o : Op α) (h : ∀ q ∈ o.reqs, q.key ≠ κ) : addsK κ o = [] := by
  unfold addsK
  rw [List.filter_eq_nil_iff]
  intro q hq hk
  exact h q hq (by simpa using hk)

theorem spec_idle {α} (κ T : Nat) (ops : List (Op α)) (hq : ∀ o ∈ ops, ∀ q ∈ o.reqs, q.key ≠ κ) :
    specReqs κ T none ops = ops.map (fun _ => none) ∧ openK κ T none ops = none := by
  induction ops generalizing T with
  | nil => exact ⟨rfl, rfl⟩
  | cons o os ih =>
    have ha := addsK_nil_of κ o (hq o List.mem_cons_self)
    have h1 : keyNext κ T none o = none := by simp [keyNext, takenK, keptK, ha]
    have h2 : keyEmit κ T none o = none := by simp [keyEmit, takenK, keptK, ha]
    obtain ⟨i1, i2⟩ := ih (T + o.chunk.length) (fun o' ho' => hq o' (List.mem_cons_of_mem _ ho'))
    simp only [specReqs, openK, h1, h2, i1, i2, List.map_cons, and_self]

theorem filterMap_id_map_none {β γ} (l : List β) : (l.map (fun _ => (none : Option γ))).filterMap id = [] := by
  induction l with
  | nil => rfl
  | cons x xs ih => exact ih

def Follows {α} (κ : Nat) (live : Option Request) (op : Op α) (r : Request) : Prop :=
  (live = some r ∧ addsK κ op = []) ∨ (live = none ∧ addsK κ op = [r])

/-- the key machine makes the two tests of `specDeliver`: removal first, last sample next -/
theorem follows_step {α} (κ T : Nat) (live : Option Request) (op : Op α) (r : Request)
    (h : Follows κ live op r) :
    keyEmit κ T live op =
      (if κ ∈ op.rems then none else if doneAt r (T + op.chunk.length) then some r else none) ∧
    keyNext κ T live op =
      (if κ ∈ op.rems then none else if doneAt r (T + op.chunk.length) then none else some r) := by
  rcases h with ⟨rfl, ha⟩ | ⟨rfl, ha⟩
  · have ht : takenK κ (some r) op = [] := by rw [takenK, ha, List.drop_nil]
    by_cases hk : κ ∈ op.rems
    · simp only [keyEmit, keyNext, ht, keptK, hk, if_true, Option.filter_none, and_self]
    · cases hd : doneAt r (T + op.chunk.length) <;>
        simp only [keyEmit, keyNext, ht, keptK, hk, if_false, Option.filter_some, hd, Bool.not_false,
          Bool.not_true, Bool.false_eq_true, if_true, and_self]
  · by_cases hk : κ ∈ op.rems
    · have ht : takenK κ none op = [] := by
        obtain ⟨m, hm⟩ := Nat.exists_eq_succ_of_ne_zero (Nat.ne_of_gt (List.count_pos_iff.2 hk))
        rw [takenK, ha, skipCount, Option.isSome_none, if_neg Bool.false_ne_true, Nat.sub_zero, hm,
          List.drop_succ_cons, List.drop_nil]
      simp only [keyEmit, keyNext, ht, keptK, hk, if_true, Option.filter_none, and_self]
    · have ht : takenK κ none op = [r] := by
        rw [takenK, ha, skipCount, List.count_eq_zero.2 hk]; rfl
      simp only [keyEmit, keyNext, ht, hk, if_false, and_self]

/-- The step of `spec_follow`, with the first call allowed to be the one that takes `r` in
(`live = none`): `ih` is the claim for the calls after it, where `r` is open.  `spec_of_valid` needs
this form for the arrival call. -/
theorem spec_follow_cons {α} (r : Request) (T : Nat) (live : Option Request) (op : Op α) (rest : List (Op α))
    (h : Follows r.key live op r) (hq : ∀ o ∈ rest, ∀ q ∈ o.reqs, q.key ≠ r.key)
    (ih : specReqs r.key (T + op.chunk.length) (some r) rest =
            (specDeliver r (T + op.chunk.length) rest).map (fun b => if b then some r else none) ∧
          openK r.key (T + op.chunk.length) (some r) rest =
            if specPending r (T + op.chunk.length) rest then some r else none) :
    specReqs r.key T live (op :: rest) =
        (specDeliver r T (op :: rest)).map (fun b => if b then some r else none) ∧
      openK r.key T live (op :: rest) = if specPending r T (op :: rest) then some r else none := by
  obtain ⟨e1, e2⟩ := follows_step r.key T live op r h
  obtain ⟨i1, i2⟩ := spec_idle r.key (T + op.chunk.length) rest hq
  have hnone : ((fun b => if b = true then some r else none) ∘ fun (_ : Op α) => false) = fun _ => none := rfl
  simp only [specReqs, openK, specDeliver, specPending, e1, e2, doneAt, decide_eq_true_eq]
  by_cases hk : r.key ∈ op.rems
  · simp only [hk, if_true, i1, i2, List.map_cons, List.map_map, hnone, Bool.false_eq_true, if_false, and_self]
  · by_cases hd : r.s.toNat + r.len ≤ T + op.chunk.length
    · simp only [hk, hd, if_true, if_false, i1, i2, List.map_cons, List.map_map, hnone, Bool.false_eq_true,
        and_self]
    · simp only [hk, hd, if_false, ih.1, ih.2, List.map_cons, Bool.false_eq_true, and_self]

/-- While it follows `r`, the key machine is the per-request spec. -/
theorem spec_follow {α} (r : Request) (T : Nat) (ops : List (Op α))
    (hq : ∀ o ∈ ops, ∀ q ∈ o.reqs, q.key ≠ r.key) :
    specReqs r.key T (some r) ops =
        (specDeliver r T ops).map (fun b => if b then some r else none) ∧
      openK r.key T (some r) ops = if specPending r T ops then some r else none := by
  induction ops generalizing T with
  | nil => exact ⟨rfl, rfl⟩
  | cons o os ih =>
    have hq' : ∀ o' ∈ os, ∀ q ∈ o'.reqs, q.key ≠ r.key := fun o' ho' => hq o' (List.mem_cons_of_mem _ ho')
    exact spec_follow_cons r T (some r) o os (Or.inl ⟨rfl, addsK_nil_of r.key o (hq o List.mem_cons_self)⟩)
      hq' (ih _ hq')

theorem filterMap_sel (r : Request) (l : List Bool) :
    (l.map (fun b => if b then some r else none)).filterMap id = (l.filter (fun b => b)).map (fun _ => r) := by
  induction l with
  | nil => rfl
  | cons b bs ih => cases b <;> simp [ih]

theorem spec_window {α} (κ T : Nat) (live : Option Request) (r : Request) (opj : Op α)
    (mid : List (Op α)) (htk : takenK κ live opj = [r])
    (hnoadd : ∀ o ∈ mid, ∀ q ∈ o.reqs, q.key ≠ κ) (hnorem : ∀ o ∈ mid, κ ∉ o.rems) :
    (r.s.toNat + r.len ≤ T + total (opj :: mid) →
      (specReqs κ T live (opj :: mid)).filterMap id = [r] ∧ openK κ T live (opj :: mid) = none) ∧
    (T + total (opj :: mid) < r.s.toNat + r.len →
      (specReqs κ T live (opj :: mid)).filterMap id = [] ∧ openK κ T live (opj :: mid) = some r) := by
  obtain rfl : r.key = κ := (takenK_sub κ live opj r (by rw [htk]; exact List.mem_cons_self)).2
  rw [total_cons, ← Nat.add_assoc]
  by_cases hd : r.s.toNat + r.len ≤ T + opj.chunk.length
  · have hda : doneAt r (T + opj.chunk.length) = true := decide_eq_true hd
    have h1 : keyNext r.key T live opj = none := by simp only [keyNext, htk, hda, if_true]
    have h2 : keyEmit r.key T live opj = some r := by simp only [keyEmit, htk, hda, if_true]
    obtain ⟨i1, i2⟩ := spec_idle r.key (T + opj.chunk.length) mid hnoadd
    constructor
    · intro _
      simp only [specReqs, openK, h1, h2, List.filterMap_cons, id, i1, filterMap_id_map_none]
      exact ⟨trivial, i2⟩
    · intro h
      exact absurd (Nat.le_trans hd (Nat.le_add_right _ _)) (Nat.not_le.2 h)
  · -- from the next call on the key follows `r`, and the per-request spec says what happens
    have hda : doneAt r (T + opj.chunk.length) = false := decide_eq_false hd
    have h1 : keyNext r.key T live opj = some r := by
      simp only [keyNext, htk, hda, Bool.false_eq_true, if_false]
    have h2 : keyEmit r.key T live opj = none := by
      simp only [keyEmit, htk, hda, Bool.false_eq_true, if_false]
    obtain ⟨f1, f2⟩ := spec_follow r (T + opj.chunk.length) mid hnoadd
    simp only [specReqs, openK, h1, h2, List.filterMap_cons, id, f1, f2, filterMap_sel]
    constructor
    · intro hend
      have hne : mid ≠ [] := fun h => hd (by rw [h] at hend; exact hend)
      obtain ⟨g1, g2⟩ := spec_reach r _ mid hne hnorem hend
      rw [g1, g2]
      exact ⟨rfl, rfl⟩
    · intro hshort
      obtain ⟨g1, g2⟩ := spec_short r _ mid hshort
      rw [g1, g2 hnorem, filter_map_false]
      exact ⟨rfl, rfl⟩

theorem opValidSeq_of_opValid {α} (B L : Nat) (hist : List (Op α)) (op : Op α) (h : OpValid B L hist op) :
    OpValidSeq B L hist op := by
  refine ⟨h.len, h.visible, ?_⟩
  intro κ
  have hlen : (addsK κ op).length ≤ 1 := filter_le_one_of_nodup op.reqs (·.key) κ h.nodup
  constructor
  · unfold takenK
    simp only [List.length_drop]; omega
  · intro hne
    obtain ⟨r, hr⟩ := List.exists_mem_of_ne_nil _ hne
    obtain ⟨hr1, hr2⟩ := takenK_sub κ _ op r hr
    have : openAfter κ hist = none := by
      cases ho : openAfter κ hist with
      | none => rfl
      | some r' =>
        obtain ⟨h1, h2⟩ := openAfter_mem κ hist r' ho
        exact absurd (by rw [h2, hr2]) (h.fresh r hr1 r' h1)
    unfold keptK
    rw [this]; simp

theorem allValidSeq_of_allValid {α} (B L : Nat) (hist ops : List (Op α)) (h : AllValid B L hist ops) :
    AllValidSeq B L hist ops := by
  induction ops generalizing hist with
  | nil => trivial
  | cons op rest ih =>
    simp only [AllValid] at h
    exact ⟨opValidSeq_of_opValid B L hist op h.1, ih _ h.2⟩

theorem valid_key_alone {α} (B L : Nat) (pre rest : List (Op α)) (op : Op α) (r : Request)
    (hv : AllValid B L [] (pre ++ op :: rest)) (hr : r ∈ op.reqs) :
    (∀ o ∈ pre, ∀ q ∈ o.reqs, q.key ≠ r.key) ∧ addsK r.key op = [r] ∧
      (∀ o ∈ rest, ∀ q ∈ o.reqs, q.key ≠ r.key) := by
  obtain ⟨hvop, hvrest⟩ := ((allValid_append B L [] pre (op :: rest)).1 hv).2
  rw [List.nil_append] at hvop hvrest
  refine ⟨fun o ho q hq => hvop.fresh r hr q (List.mem_flatMap.2 ⟨o, ho, hq⟩),
    filter_key_unique op.reqs (·.key) r hvop.nodup hr,
    allValid_fresh B L (pre ++ [op]) rest r.key hvrest ⟨r, ?_, rfl⟩⟩
  rw [allReqs_append]
  exact List.mem_append_right _ (List.mem_flatMap.2 ⟨op, List.mem_singleton_self op, hr⟩)

/-- In a history with pairwise distinct keys the key machine of `r.key` is idle until `r` arrives
and follows `r` from then on. -/
theorem spec_of_valid {α} (B L : Nat) (pre rest : List (Op α)) (op : Op α) (r : Request)
    (hv : AllValid B L [] (pre ++ op :: rest)) (hr : r ∈ op.reqs) :
    specReqs r.key 0 none (pre ++ op :: rest) =
        pre.map (fun _ => none) ++
          (specDeliver r (total pre) (op :: rest)).map (fun b => if b then some r else none) ∧
      openAfter r.key (pre ++ op :: rest) =
        if specPending r (total pre) (op :: rest) then some r else none := by
  obtain ⟨h1, h2, h3⟩ := valid_key_alone B L pre rest op r hv hr
  obtain ⟨i1, i2⟩ := spec_idle r.key 0 pre h1
  obtain ⟨f1, f2⟩ := spec_follow_cons r (total pre) none op rest (Or.inr ⟨rfl, h2⟩) h3
    (spec_follow r _ rest h3)
  rw [specReqs_append, openAfter, openK_append, i1, i2, Nat.zero_add]
  exact ⟨by rw [f1], f2⟩

end Psi.Extract

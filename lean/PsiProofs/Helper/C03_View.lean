import PsiProofs.Helper.C04_Cons
/-!
Policy view of a queue state and the generic "ticks = a sequence of `next_trial`s" lemma.

A tick either leaves the policy view (what `next_key`/`decrement_key` read and write, plus the key
log) unchanged, or performs exactly one successful `next_trial`. Hence an invariant of the view that
is preserved by `next_trial`, and under which `next_trial` does not raise, holds after any number
of ticks, and no tick raises.
-/
namespace Psi.Queue

structure PView where
  kind : Kind
  keep : Bool
  gsize : Nat
  data : List Entry
  ordering : List Nat
  cursor : Int
  complete : Bool
  block : List Nat
  draws : List Nat
  perms : List (List Nat)
  keys : List Nat          -- keys of the `added` notifications so far

def view (s : QState) : PView :=
  ⟨s.kind, s.keep, s.gsize, s.data, s.ordering, s.cursor, s.complete, s.block, s.draws, s.perms,
   s.added.map (·.key)⟩

def keyLog (s : QState) : List Nat := s.added.map (·.key)

def trv (d : List Entry) (k : Nat) : Int :=
  match d[k]? with
  | some e => e.trials
  | none => 0

theorem trialsOf_eq (s : QState) (k : Nat) : trialsOf s k = trv s.data k := rfl

theorem view_emitSrc (s : QState) (src : Src) : view (emitSrc s src).2 = view s := rfl

theorem tick_view {s s' : QState} {c : Cell} (h : tick s = .ok (c, s')) :
    view s' = view s ∨ ∃ s1, nextTrial (dropSrc s) = .ok (some s1) ∧ view s' = view s1 := by
  cases tick_cases h with
  | paused _ _ hs => subst hs; exact Or.inl rfl
  | play src _ _ _ he => cases he; exact Or.inl (view_emitSrc s src)
  | gap _ _ _ _ hs => subst hs; exact Or.inl rfl
  | dry _ _ _ _ _ hs => subst hs; exact Or.inl rfl
  | start s1 src _ _ _ hn _ _ he => cases he; exact Or.inr ⟨s1, hn, view_emitSrc s1 src⟩

theorem tick_inv_of_step {I : QState → Prop}
    (same : ∀ {s s'}, I s → view s' = view s → s'.generated = s.generated → I s')
    (step : ∀ {s s1}, I s → nextTrial s = .ok (some s1) → I s1)
    {s s' : QState} {c : Cell} (hi : I s) (h : tick s = .ok (c, s')) : I s' :=
  tickD_preserves (d := true) (fun hb hi => same hi (by rw [hb]; rfl) (by rw [hb])) step hi h

theorem tick_ok_of {s : QState} (hw : WF s)
    (h : nextTrial (dropSrc s) = .ok none ∨ ∃ s1, nextTrial (dropSrc s) = .ok (some s1)) :
    ∃ r, tick s = .ok r := by
  have hwd : WF (dropSrc s) := ⟨hw.data, fun src h => by cases h⟩
  have key : ∃ r, afterSource (dropSrc s) = .ok r := by
    unfold afterSource
    split
    · exact ⟨_, rfl⟩
    · rcases h with h | ⟨s1, hs1⟩
      · rw [h]; exact ⟨_, rfl⟩
      · obtain ⟨_, _, src, hsrc, hoff, hlen⟩ := nextTrial_WF hwd hs1
        have : src.off < src.len := by omega
        simp only [hs1, hsrc, this, if_true]
        exact ⟨_, rfl⟩
  unfold tick
  split
  · exact ⟨_, rfl⟩
  · cases hs : s.source with
    | none =>
      rw [dropSrc_of_none hs] at key; exact key
    | some src =>
      dsimp only
      split
      · exact ⟨_, rfl⟩
      · exact key

/-- `I m s`: an invariant of the policy view with a budget `m` of oracle draws; a trial uses at most one. -/
theorem run_inv {I : Nat → QState → Prop}
    (same : ∀ m s s', view s' = view s → I m s → I m s')
    (mono : ∀ m s, I (m + 1) s → I m s)
    (step : ∀ m s, I (m + 1) s →
      nextTrial s = .ok none ∨ ∃ s1, nextTrial s = .ok (some s1) ∧ I m s1)
    (N m : Nat) {s : QState} (hw : WF s) (hi : I (m + N) s) :
    ∃ cs s', runTicks N s = .ok (cs, s') ∧ WF s' ∧ I m s' := by
  induction N generalizing s with
  | zero => exact ⟨[], s, rfl, hw, hi⟩
  | succ N ih =>
    have hst := step (m + N) (dropSrc s) (same _ s _ rfl hi)
    obtain ⟨⟨c, s1⟩, ht⟩ := tick_ok_of hw (by
      rcases hst with h | ⟨s1, h, _⟩
      · exact Or.inl h
      · exact Or.inr ⟨s1, h⟩)
    have hi1 : I (m + N) s1 := by
      rcases tick_view ht with hv | ⟨s2, hn, hv⟩
      · exact same _ _ _ hv (mono _ _ hi)
      · rcases hst with h | ⟨s3, h, hi3⟩
        · rw [h] at hn; simp at hn
        · rw [h] at hn
          simp only [Except.ok.injEq, Option.some.injEq] at hn
          subst hn; exact same _ _ _ hv hi3
    obtain ⟨cs, s2, hr, hw2, hi2⟩ := ih (tick_WF hw ht) hi1
    exact ⟨c :: cs, s2, by simp [runTicks, ht, hr], hw2, hi2⟩

theorem run_inv' {I : PView → Prop}
    (step : ∀ s, I (view s) → nextTrial s = .ok none ∨ ∃ s1, nextTrial s = .ok (some s1) ∧ I (view s1))
    (N : Nat) {s : QState} (hw : WF s) (hi : I (view s)) :
    ∃ cs s', runTicks N s = .ok (cs, s') ∧ WF s' ∧ I (view s') :=
  run_inv (I := fun _ s => I (view s)) (fun _ _ _ hv h => hv ▸ h) (fun _ _ h => h) (fun _ s h => step s h)
    N 0 hw hi

theorem Done_iff_empty {s : QState} (hk : s.kind = .fifo ∨ s.kind = .random ∨ s.kind = .grouped) :
    Done s ↔ s.ordering = [] := by
  unfold Done
  rcases hk with hk | hk | hk <;> rw [hk]

theorem Done_iff_complete {s : QState} (hk : s.kind = .interleaved ∨ s.kind = .blockedRandom) :
    Done s ↔ s.complete = true := by
  unfold Done
  rcases hk with hk | hk <;> rw [hk]

theorem nextTrial_of_complete {s : QState} (hk : s.kind = .interleaved ∨ s.kind = .blockedRandom)
    (hc : s.complete = true) : nextTrial s = .ok none :=
  nextTrial_none_of ((nextKey_none_iff s).mpr ((Done_iff_complete hk).mpr hc))

theorem nextTrial_of_empty {s : QState} (hk : s.kind = .fifo ∨ s.kind = .random ∨ s.kind = .grouped)
    (ho : s.ordering = []) : nextTrial s = .ok none :=
  nextTrial_none_of ((nextKey_none_iff s).mpr ((Done_iff_empty hk).mpr ho))

/-- the data table after one trial of `k` was set up -/
def dataStep (d : List Entry) (k : Nat) : List Entry :=
  (setTrials d k (· - 1)).modify k (fun e => { e with dpos := e.dpos + 1 })

def DelaysOK (d : List Entry) : Prop :=
  ∀ (i : Nat) (e : Entry), d[i]? = some e → e.delays ≠ [] ∧ ∀ x ∈ e.delays, 0 ≤ x

theorem dataStep_get (d : List Entry) (k k' : Nat) :
    (dataStep d k)[k']? =
      if k = k' then (d[k']?).map (fun e => { e with trials := e.trials - 1, dpos := e.dpos + 1 })
      else d[k']? := by
  unfold dataStep
  rw [List.getElem?_modify, setTrials_get]
  by_cases h : k = k'
  · subst h; cases d[k]? <;> simp
  · simp [h]

theorem dataStep_length (d : List Entry) (k : Nat) : (dataStep d k).length = d.length := by
  simp [dataStep, setTrials]

theorem trv_setTrials {f : Int → Int} (d : List Entry) (k k' : Nat) (hk : k < d.length) :
    trv (setTrials d k f) k' = if k' = k then f (trv d k') else trv d k' := by
  unfold trv
  rw [setTrials_get]
  by_cases h : k = k'
  · subst h
    simp [List.getElem?_eq_getElem hk]
  · have : ¬ k' = k := fun h' => h h'.symm
    simp [h, this]

theorem trv_setTrials_ne {f : Int → Int} (d : List Entry) {k k' : Nat} (h : k' ≠ k) :
    trv (setTrials d k f) k' = trv d k' := by
  unfold trv
  rw [setTrials_get, if_neg (Ne.symm h)]

theorem trv_setTrials_eq_dataStep (d : List Entry) (k : Nat) :
    trv (setTrials d k (· - 1)) = trv (dataStep d k) := by
  funext k'
  unfold trv dataStep
  rw [List.getElem?_modify]
  cases (setTrials d k (· - 1))[k']? with
  | none => rfl
  | some e => by_cases h : k = k' <;> simp [h]

theorem trv_dataStep (d : List Entry) (k k' : Nat) (hk : k < d.length) :
    trv (dataStep d k) k' = if k' = k then trv d k' - 1 else trv d k' := by
  rw [← trv_setTrials_eq_dataStep, trv_setTrials _ _ _ hk]

theorem forall_mem_snoc {α : Type} {P : α → Prop} {l : List α} {a : α} (h : ∀ x ∈ l, P x) (ha : P a) :
    ∀ x ∈ l ++ [a], P x :=
  List.forall_mem_append.mpr ⟨h, List.forall_mem_singleton.mpr ha⟩

theorem entries_map {P : Entry → Prop} {f : Nat → Entry → Entry} (hf : ∀ k e, P e → P (f k e))
    {d d' : List Entry} (h : ∀ k, d'[k]? = d[k]? ∨ d'[k]? = (d[k]?).map (f k))
    (hd : ∀ (i : Nat) (e : Entry), d[i]? = some e → P e) :
    ∀ (i : Nat) (e : Entry), d'[i]? = some e → P e := by
  intro i e he
  rcases h i with h1 | h1
  · rw [h1] at he; exact hd i e he
  · rw [h1] at he
    cases h0 : d[i]? with
    | none => rw [h0] at he; cases he
    | some e0 => rw [h0] at he; cases he; exact hf i e0 (hd i e0 h0)

theorem DelaysOK_dataStep {d : List Entry} (h : DelaysOK d) (k : Nat) : DelaysOK (dataStep d k) :=
  entries_map (f := fun _ e => { e with trials := e.trials - 1, dpos := e.dpos + 1 }) (fun _ _ h => h)
    (fun k' => by rw [dataStep_get]; split; exact Or.inr rfl; exact Or.inl rfl) h

theorem nextTrial_ok {s sa sb : QState} {k : Nat}
    (hk : nextKey s = .ok (some (k, sa))) (hd : decrementKey sa k = .ok sb)
    (hv : k < s.data.length) (hdel : DelaysOK s.data) :
    ∃ s1, nextTrial s = .ok (some s1) ∧
      view s1 = { view s with data := dataStep s.data k, keys := (view s).keys ++ [k],
                              ordering := sb.ordering, complete := sb.complete,
                              cursor := sa.cursor, block := sa.block, draws := sa.draws,
                              perms := sa.perms } := by
  have f1 := nextKey_frame hk
  have f2 := decrementKey_frame hd
  obtain ⟨e, he⟩ : ∃ e, s.data[k]? = some e := ⟨_, List.getElem?_eq_getElem hv⟩
  have hsa : sa.data = s.data := by rw [f1]
  have he0 : sa.data[k]? = some e := by rw [hsa]; exact he
  have hsb : sb.data = setTrials s.data k (· - 1) := by rw [f2]; simp only; rw [hsa]
  have hget : sb.data[k]? = some { e with trials := e.trials - 1 } := by
    rw [hsb, setTrials_get]; simp [he]
  obtain ⟨hne, hd0⟩ := hdel k e he
  have hidx : e.dpos % e.delays.length < e.delays.length := Nat.mod_lt _ (List.length_pos_iff.mpr hne)
  unfold nextTrial
  simp only [hk, he0, hd, hget]
  have h1 : ¬ e.delays.length = 0 := by omega
  simp only [h1, if_false, List.getElem?_eq_getElem hidx]
  have h2 : ¬ e.delays[e.dpos % e.delays.length] < 0 := by
    have := hd0 _ (List.getElem_mem hidx); omega
  simp only [h2, if_false]
  refine ⟨_, rfl, ?_⟩
  simp only [view, List.map_append, List.map_cons, List.map_nil, PView.mk.injEq, true_and]
  rw [f2]; simp only; rw [f1]
  exact ⟨rfl, rfl, rfl, rfl, trivial, trivial, trivial, trivial, rfl⟩

end Psi.Queue

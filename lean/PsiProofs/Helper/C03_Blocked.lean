import PsiProofs.Helper.C03_Policy
/-! Blocked random queue: the log is the concatenation of the oracle's shuffles (each consumed from
its end, as `list.pop()` does), cut at the first moment every stimulus is satisfied. -/
namespace Psi.Queue

/-- Blocked random, `n` stimuli, requested `req`, shuffle stream `P0` at load time, `m` shuffles
still guaranteed. -/
structure BlockInv (n : Nat) (req : Nat → Int) (P0 : List (List Nat)) (m : Nat) (v : PView) : Prop where
  base : Base n req v
  kind : v.kind = .blockedRandom
  ord : v.ordering = List.range n
  permsOK : ∀ p ∈ P0, p.Perm (List.range n)
  blocks : ∃ b, b ≤ P0.length ∧ v.perms = P0.drop b ∧
    v.keys ++ v.block.reverse = (P0.take b).flatMap List.reverse
  blockLt : v.block.length < n ∧ ∀ i ∈ v.block, i < n
  budget : m ≤ v.perms.length
  open_ : v.complete = false → ∃ k, k < n ∧ 0 < trv v.data k
  closed : v.complete = true → ∀ k, k < n → trv v.data k ≤ 0
  first : ∀ j, j < v.keys.length → ∃ k, k < n ∧ (((v.keys.take j).count k : Nat) : Int) < req k

theorem BlockInv_init {s : QState} {m : Nat} (h : Loaded s) (hk : s.kind = .blockedRandom)
    (hp : ∀ p ∈ s.perms, p.Perm (List.range s.data.length)) (hm : m ≤ s.perms.length) :
    BlockInv s.data.length (fun k => trialsOf s k) s.perms m (view s) := by
  refine ⟨Base_init h, hk, h.ordering, hp, ⟨0, Nat.zero_le _, by simp [view], by simp [view, h.added, h.block]⟩,
    ⟨by simp [view, h.block, h.pos], by simp [view, h.block]⟩, hm,
    (open_closed_of_iff h.compl).1, (open_closed_of_iff h.compl).2, ?_⟩
  intro m hm; simp [view, h.added] at hm

theorem BlockInv_mono {n : Nat} {req : Nat → Int} {P0 : List (List Nat)} (m : Nat) (v : PView)
    (h : BlockInv n req P0 (m + 1) v) : BlockInv n req P0 m v :=
  ⟨h.base, h.kind, h.ord, h.permsOK, h.blocks, h.blockLt, by have := h.budget; omega, h.open_, h.closed,
   h.first⟩

theorem nextKey_blocked {s : QState} {n i : Nat} {ys : List Nat} {ps : List (List Nat)}
    (hkind : s.kind = .blockedRandom) (hord : s.ordering = List.range n) (hc : s.complete = false)
    (hil : i < n)
    (h : (s.block = ys ++ [i] ∧ s.perms = ps) ∨ (s.block = [] ∧ s.perms = (ys ++ [i]) :: ps)) :
    nextKey s = .ok (some (i, { s with block := ys, perms := ps })) := by
  unfold nextKey
  rcases h with ⟨hb, hp⟩ | ⟨hb, hp⟩ <;> simp [hkind, hc, hb, hp, hord, List.getElem?_range hil]

/-- `next_key` of a blocked-random queue that is not complete: the index comes off the end of the block,
which is first refilled with the next shuffle when it is used up; log and unconsumed block make up
whole shuffles of `P0` before and after. -/
theorem blocked_nextKey {n : Nat} {P0 : List (List Nat)} {s : QState} (hkind : s.kind = .blockedRandom)
    (hord : s.ordering = List.range n) (hc : s.complete = false)
    (permsOK : ∀ p ∈ P0, p.Perm (List.range n))
    (blocks : ∃ b, b ≤ P0.length ∧ s.perms = P0.drop b ∧
      keyLog s ++ s.block.reverse = (P0.take b).flatMap List.reverse)
    (blockLt : s.block.length < n ∧ ∀ i ∈ s.block, i < n) (hne : s.block = [] → s.perms ≠ []) :
    ∃ i sa, i < n ∧ nextKey s = .ok (some (i, sa)) ∧
      (∃ b, b ≤ P0.length ∧ sa.perms = P0.drop b ∧
        (keyLog s ++ [i]) ++ sa.block.reverse = (P0.take b).flatMap List.reverse) ∧
      (sa.block.length < n ∧ ∀ x ∈ sa.block, x < n) ∧ s.perms.length ≤ sa.perms.length + 1 := by
  obtain ⟨b, hbl, hperms, hcat⟩ := blocks
  -- `cur`: the block the index comes off, `ps`: the shuffles left after that, `b'`: shuffles begun
  suffices key : ∃ (cur : List Nat) (ps : List (List Nat)) (b' : Nat), cur ≠ [] ∧ cur.length ≤ n ∧
      (∀ x ∈ cur, x < n) ∧ b' ≤ P0.length ∧ ps = P0.drop b' ∧
      keyLog s ++ cur.reverse = (P0.take b').flatMap List.reverse ∧ s.perms.length ≤ ps.length + 1 ∧
      ((s.block = cur ∧ s.perms = ps) ∨ (s.block = [] ∧ s.perms = cur :: ps)) by
    obtain ⟨cur, ps, b', hcur, hlen, hmem, hb', hps, hcat', hbud, hfrom⟩ := key
    obtain ⟨ys, hys⟩ := List.getLast?_eq_some_iff.mp (List.getLast?_eq_some_getLast hcur)
    generalize cur.getLast hcur = i at hys
    subst hys
    have hil : i < n := hmem i (by simp)
    exact ⟨i, { s with block := ys, perms := ps }, hil, nextKey_blocked hkind hord hc hil hfrom,
      ⟨b', hb', hps, by rw [← hcat']; simp⟩,
      ⟨Nat.lt_of_succ_le (by simpa using hlen), fun x hx => hmem x (List.mem_append_left _ hx)⟩, hbud⟩
  by_cases hb : s.block = []
  · obtain ⟨p, pss, hps⟩ := List.exists_cons_of_ne_nil (hne hb)
    have hpget : P0[b]? = some p := by rw [← List.head?_drop, ← hperms, hps]; rfl
    have hpp := permsOK p (List.mem_of_getElem? hpget)
    have hplen : p.length = n := by rw [hpp.length_eq]; simp
    refine ⟨p, pss, b + 1, ?_, Nat.le_of_eq hplen, fun x hx => List.mem_range.mp (hpp.mem_iff.mp hx),
      (List.getElem?_eq_some_iff.mp hpget).1, ?_, ?_, by simp [hps], Or.inr ⟨hb, hps⟩⟩
    · intro h
      rw [h] at hplen
      exact absurd hplen.symm (Nat.ne_of_gt (Nat.lt_of_le_of_lt (Nat.zero_le _) blockLt.1))
    · rw [List.drop_add_one_eq_tail_drop, ← hperms, hps]; rfl
    · rw [List.take_add_one, hpget, List.flatMap_append, ← hcat, hb]; simp
  · exact ⟨s.block, s.perms, b, hb, Nat.le_of_lt blockLt.1, blockLt.2, hbl, hperms, hcat, Nat.le_succ _,
      Or.inl ⟨rfl, rfl⟩⟩

theorem BlockInv_step {n : Nat} {req : Nat → Int} {P0 : List (List Nat)} (m : Nat) (s : QState)
    (hi : BlockInv n req P0 (m + 1) (view s)) :
    nextTrial s = .ok none ∨ ∃ s1, nextTrial s = .ok (some s1) ∧ BlockInv n req P0 m (view s1) := by
  have hkind : s.kind = .blockedRandom := hi.kind
  have hord : s.ordering = List.range n := hi.ord
  cases hc : s.complete with
  | true => exact Or.inl (nextTrial_of_complete (Or.inr hkind) hc)
  | false =>
    right
    have hbud : m + 1 ≤ s.perms.length := hi.budget
    obtain ⟨i, sa, hil, hkey, ⟨b, hb, hp, hcat⟩, hblt, hbud'⟩ :=
      blocked_nextKey hkind hord hc hi.permsOK hi.blocks hi.blockLt
        (fun _ hp => by rw [hp] at hbud; simp at hbud)
    obtain ⟨s1, hs1, hv, hcompl⟩ :=
      complete_trial hi.base.len hi.base.delays (Or.inr hkind) hord hc hkey hil
    have hkeys : (view s1).keys = (view s).keys ++ [i] := by rw [hv]
    obtain ⟨hopen, hclosed⟩ := open_closed_of_iff hcompl
    refine ⟨s1, hs1, Base_step hi.base hil (by rw [hv]; rfl) hkeys, by rw [hv]; exact hkind,
      by rw [hv]; exact hord, hi.permsOK, ⟨b, hb, by rw [hv]; exact hp, by rw [hkeys]; rw [hv]; exact hcat⟩,
      by rw [hv]; exact hblt, by rw [hv]; show m ≤ sa.perms.length; omega, hopen, hclosed, ?_⟩
    rw [hkeys]
    obtain ⟨k, hk, hp⟩ := hi.open_ hc
    exact snoc_each (P := fun _ pre _ => ∃ k, k < n ∧ ((pre.count k : Nat) : Int) < req k) hi.first
      ⟨k, hk, (hi.base.unsat_iff hk).mp hp⟩

end Psi.Queue

import PsiProofs.Helper.C16_Bridge
/-!
Orthogonality kernel `Σ_i cos(2π i (a-b)/n) = n·[a = b]`, the symmetry `k ↦ n - k` of `|X_k|²` and of the terms of the
inverse transform of a real signal, folding a symmetric sum onto its first half, and the full Parseval identity.
-/
open Finset

namespace Psi.Db

theorem sum_range_add_reflect (c t : ℕ) (g : ℕ → ℝ) (h : ∀ i, i < t → g (c + t - (i + 1)) = g (i + 1)) :
    ∑ i ∈ range (c + t), g i = ∑ i ∈ range c, g i + ∑ i ∈ range t, g (i + 1) := by
  rw [Finset.sum_range_add, ← Finset.sum_range_reflect (fun i => g (c + i))]
  congr 1
  refine Finset.sum_congr rfl fun i hi => ?_
  have hi' := Finset.mem_range.1 hi
  rw [← h i hi']
  congr 1
  omega

theorem sum_fold_even (m : ℕ) (g : ℕ → ℝ) (h : ∀ i, 0 < i → i < 2 * (m + 1) → g (2 * (m + 1) - i) = g i) :
    ∑ i ∈ range (2 * (m + 1)), g i + g 0 + g (m + 1) = 2 * ∑ i ∈ range (m + 1 + 1), g i := by
  have e : 2 * (m + 1) = (m + 2) + m := by ring
  have T := sum_range_add_reflect (m + 2) m g fun i hi => by
    rw [← e]; exact h _ i.succ_pos (by omega)
  rw [e, T, Finset.sum_range_succ, Finset.sum_range_succ']
  ring

theorem sum_fold_odd (m : ℕ) (g : ℕ → ℝ) (h : ∀ i, 0 < i → i < 2 * m + 1 → g (2 * m + 1 - i) = g i) :
    ∑ i ∈ range (2 * m + 1), g i + g 0 = 2 * ∑ i ∈ range (m + 1), g i := by
  have e : 2 * m + 1 = (m + 1) + m := by ring
  have T := sum_range_add_reflect (m + 1) m g fun i hi => by
    rw [← e]; exact h _ i.succ_pos (by omega)
  rw [e, T, Finset.sum_range_succ']
  ring

/-- The end points `0` and (even `n`) `n/2` are their own mirror images and are counted once. -/
theorem sum_fold (n : ℕ) (hn : 0 < n) (g : ℕ → ℝ) (h : ∀ i, 0 < i → i < n → g (n - i) = g i) :
    ∑ i ∈ range n, g i + g 0 + (if n % 2 = 0 then g (n / 2) else 0)
      = 2 * ∑ i ∈ range (n / 2 + 1), g i := by
  rcases Nat.even_or_odd' n with ⟨m, rfl | rfl⟩
  · obtain ⟨m', rfl⟩ := Nat.exists_eq_succ_of_ne_zero (show m ≠ 0 by omega)
    rw [if_pos (Nat.mul_mod_right 2 _), Nat.mul_div_cancel_left _ two_pos]
    exact sum_fold_even m' g h
  · rw [if_neg (by omega), show (2 * m + 1) / 2 = m by omega, add_zero]
    exact sum_fold_odd m g h

theorem kernel_sum (n : ℕ) (a b : ℕ) (ha : a < n) (hb : b < n) :
    ∑ i ∈ range n, Real.cos (2 * Real.pi * i * a / n - 2 * Real.pi * i * b / n)
      = if a = b then (n : ℝ) else 0 := by
  have e : ∀ i : ℕ, 2 * Real.pi * i * a / n - 2 * Real.pi * i * b / n
      = 2 * Real.pi * (((a : ℤ) - (b : ℤ) : ℤ) : ℝ) * i / n := by
    intro i
    rw [Int.cast_sub, Int.cast_natCast, Int.cast_natCast]
    ring
  simp_rw [e]
  exact C16.sum_cos_sub n a b ha hb

theorem angle_reflect (n k j : ℕ) (hn : 0 < n) (hk : k ≤ n) :
    2 * Real.pi * ((n - k : ℕ) : ℝ) * j / n = (j : ℝ) * (2 * Real.pi) - 2 * Real.pi * k * j / n := by
  have hn' := cast_ne_zero hn
  rw [Nat.cast_sub hk, show 2 * Real.pi * ((n : ℝ) - k) * j / n
    = (j : ℝ) * (2 * Real.pi) * (n / n) - 2 * Real.pi * k * j / n by ring, div_self hn', mul_one]

theorem cos_reflect (n k j : ℕ) (hn : 0 < n) (hk : k ≤ n) :
    Real.cos (2 * Real.pi * ((n - k : ℕ) : ℝ) * j / n) = Real.cos (2 * Real.pi * k * j / n) := by
  rw [angle_reflect n k j hn hk, Real.cos_nat_mul_two_pi_sub]

theorem sin_reflect (n k j : ℕ) (hn : 0 < n) (hk : k ≤ n) :
    Real.sin (2 * Real.pi * ((n - k : ℕ) : ℝ) * j / n) = -Real.sin (2 * Real.pi * k * j / n) := by
  rw [angle_reflect n k j hn hk, Real.sin_nat_mul_two_pi_sub]

theorem cos_sub_reflect (n k l j : ℕ) (hn : 0 < n) (hk : k ≤ n) :
    Real.cos (2 * Real.pi * ((n - k : ℕ) : ℝ) * l / n - 2 * Real.pi * ((n - k : ℕ) : ℝ) * j / n)
      = Real.cos (2 * Real.pi * k * l / n - 2 * Real.pi * k * j / n) := by
  rw [Real.cos_sub, cos_reflect n k l hn hk, cos_reflect n k j hn hk, sin_reflect n k l hn hk,
    sin_reflect n k j hn hk, neg_mul_neg, ← Real.cos_sub]

theorem sum_mul_kernel (n : ℕ) (f : ℕ → ℝ) (j : ℕ) (hj : j < n) :
    ∑ l ∈ range n, ∑ i ∈ range n, f l * Real.cos (2 * Real.pi * i * l / n - 2 * Real.pi * i * j / n)
      = n * f j := by
  have h : ∀ l ∈ range n, ∑ i ∈ range n,
      f l * Real.cos (2 * Real.pi * i * l / n - 2 * Real.pi * i * j / n)
      = if l = j then f l * n else 0 := fun l hl => by
    rw [← Finset.mul_sum, kernel_sum n l j (Finset.mem_range.1 hl) hj, mul_ite, mul_zero]
  rw [Finset.sum_congr rfl h, Finset.sum_ite_eq', if_pos (Finset.mem_range.2 hj), mul_comm]

theorem dftBin_normSq (n : ℕ) (s : ℕ → ℝ) (k : ℕ) :
    (dftBin n s k).normSq = ∑ j ∈ range n, ∑ l ∈ range n,
      s j * s l * Real.cos (2 * Real.pi * k * l / n - 2 * Real.pi * k * j / n) := by
  rw [Cx.normSq, dftBin_re, dftBin_im, neg_mul_neg, Finset.sum_mul_sum, Finset.sum_mul_sum,
    ← Finset.sum_add_distrib]
  refine Finset.sum_congr rfl fun j _ => ?_
  rw [← Finset.sum_add_distrib]
  refine Finset.sum_congr rfl fun l _ => ?_
  rw [Real.cos_sub]
  ring

theorem dftBin_normSq_reflect (n : ℕ) (s : ℕ → ℝ) (k : ℕ) (hn : 0 < n) (hk : k ≤ n) :
    (dftBin n s (n - k)).normSq = (dftBin n s k).normSq := by
  rw [dftBin_normSq, dftBin_normSq]
  exact Finset.sum_congr rfl fun j _ => Finset.sum_congr rfl fun l _ => by
    rw [cos_sub_reflect n k l j hn hk]

theorem parseval_full (n : ℕ) (s : ℕ → ℝ) :
    ∑ k ∈ range n, (dftBin n s k).normSq = n * ∑ j ∈ range n, s j * s j := by
  simp_rw [dftBin_normSq]
  rw [Finset.sum_comm, Finset.mul_sum]
  refine Finset.sum_congr rfl fun j hj => ?_
  rw [Finset.sum_comm]
  exact sum_mul_kernel n (fun l => s j * s l) j (Finset.mem_range.1 hj)

/-- `Re(X_i e^{2πi·ij/n}) = Σ_l s_l cos(2π i (l-j)/n)` -/
theorem idft_term (n : ℕ) (s : ℕ → ℝ) (i j : ℕ) :
    (dftBin n s i).re * Real.cos (2 * Real.pi * i * j / n)
      - (dftBin n s i).im * Real.sin (2 * Real.pi * i * j / n)
      = ∑ l ∈ range n, s l * Real.cos (2 * Real.pi * i * l / n - 2 * Real.pi * i * j / n) := by
  rw [dftBin_re, dftBin_im, Finset.sum_mul, neg_mul, sub_neg_eq_add, Finset.sum_mul,
    ← Finset.sum_add_distrib]
  refine Finset.sum_congr rfl fun l _ => ?_
  rw [Real.cos_sub]
  ring

theorem idft_term_reflect (n : ℕ) (s : ℕ → ℝ) (i j : ℕ) (hn : 0 < n) (hi : i ≤ n) :
    (dftBin n s (n - i)).re * Real.cos (2 * Real.pi * ((n - i : ℕ) : ℝ) * j / n)
      - (dftBin n s (n - i)).im * Real.sin (2 * Real.pi * ((n - i : ℕ) : ℝ) * j / n)
      = (dftBin n s i).re * Real.cos (2 * Real.pi * i * j / n)
        - (dftBin n s i).im * Real.sin (2 * Real.pi * i * j / n) := by
  rw [idft_term, idft_term]
  exact Finset.sum_congr rfl fun l _ => by rw [cos_sub_reflect n i l j hn hi]

/-- `Σ_i Re(X_i e^{2πi·ij/n}) = n·s_j` -/
theorem idft_sum (n : ℕ) (s : ℕ → ℝ) (j : ℕ) (hj : j < n) :
    ∑ i ∈ range n, ((dftBin n s i).re * Real.cos (2 * Real.pi * i * j / n)
      - (dftBin n s i).im * Real.sin (2 * Real.pi * i * j / n)) = n * s j := by
  simp_rw [idft_term]
  rw [Finset.sum_comm]
  exact sum_mul_kernel n s j hj

end Psi.Db

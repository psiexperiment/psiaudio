import PsiProofs.Helper.C06_Notes
/-!
The successful steps of the composed system as a relation (`JStep`; `jstep` itself is unfolded in
`jstep_ok` and `jstep_acq` only), the joint invariant over whole histories, and what the extractor
has delivered under one dictionary key in terms of the notification stream (C05's per-request
refinement `extract_refines_spec_seq` read through the ghost of the joint invariant).
-/
namespace Psi.E2E
open Psi.Queue Psi.Extract

/-- `jstep` read as a relation, the guards as propositions -/
inductive JStep (c : Cfg) (J : JState) : Ev → JState → Prop
  | pop {n : Nat} {out : List Cell} {q' : QState} (h : popBuffer n J.q = .ok (out, q')) :
      JStep c J (.q (.pop n))
        { J with q := q', tl := J.tl ++ out, pend := J.pend ++ (q'.added.drop J.q.added.length).map Note.add }
  | pauseNone (hi : idle J.q = true) : JStep c J (.q (.pause none)) { J with q := (pause none J.q).1 }
  | pauseSome {m : Int} (hm : m ≤ J.q.samples) (hacq : (J.acq : Int) ≤ (c.K0 : Int) + m) :
      JStep c J (.q (.pause (some m)))
        { J with q := (pause (some m) J.q).1, tl := J.tl.take ((c.K0 : Int) + m).toNat,
                 pend := J.pend ++ ((J.q.generated.reverse.filter (endsAfter m)).map Note.rem) }
  | resumeNone : JStep c J (.q (.resume none)) { J with q := resume none J.q }
  | resumeSome {m : Int} (hm : J.q.samples ≤ m) (hi : m = J.q.samples ∨ idle J.q = true) :
      JStep c J (.q (.resume (some m)))
        { J with q := resume (some m) J.q, tl := J.tl ++ zeros (m - J.q.samples).toNat }
  | acq {n vis : Nat} {complete : Bool} (hn : J.acq + n ≤ J.tl.length)
      (hvis : ∀ r ∈ (J.pend.take vis).filterMap (Note.req? c), ((lookbackStart c.B J.eops : Nat) : Int) ≤ r.s)
      (hlate : ∀ r, Note.rem r ∈ J.pend.drop vis → J.acq + n < (reqOf c r).s.toNat + c.L) :
      JStep c J (.acq n vis complete)
        { J with acq := J.acq + n, pend := J.pend.drop vis,
                 eops := J.eops ++ [{ chunk := (J.tl.drop J.acq).take n,
                                      reqs := (J.pend.take vis).filterMap (Note.req? c),
                                      rems := (J.pend.take vis).filterMap (Note.rem? c), complete := complete }] }

theorem jstep_ok (c : Cfg) {J J' : JState} {ev : Ev} (h : jstep c J ev = .ok J') : JStep c J ev J' := by
  unfold jstep at h
  split at h
  · split at h
    · cases h
    · rename_i hp; cases h; exact .pop hp
  · split at h
    · rename_i hi; cases h; exact .pauseNone hi
    · cases h
  · split at h
    · cases h
    · split at h
      · cases h
      · rename_i hm hacq
        cases h
        exact .pauseSome (Int.not_lt.1 hm) (Int.not_lt.1 hacq)
  · cases h; exact .resumeNone
  · split at h
    · cases h
    · split at h
      · cases h
      · rename_i m hm hg
        cases h
        refine .resumeSome (Int.not_lt.1 hm) ?_
        by_cases he : m = J.q.samples
        · exact Or.inl he
        · cases hid : idle J.q with
          | true => exact Or.inr rfl
          | false => exact absurd ⟨he, hid⟩ hg
  · split at h
    · cases h
    · rename_i hn
      dsimp only at h  -- the `let`s
      split at h
      · cases h
      · rename_i hvis
        split at h
        · cases h
        · rename_i hlate
          cases h
          rw [Bool.not_eq_false, List.all_eq_true] at hvis hlate
          exact .acq (Nat.le_of_not_lt hn) (fun r hr => by simpa using hvis r hr)
            (fun r hr => by simpa [lateRemovalOk] using hlate _ hr)
theorem jstep_acq (c : Cfg) (J : JState) (n vis : Nat) (complete : Bool) (hn : J.acq + n ≤ J.tl.length)
    (hvis : ∀ r ∈ (J.pend.take vis).filterMap (Note.req? c), ((lookbackStart c.B J.eops : Nat) : Int) ≤ r.s)
    (hlate : ∀ r, Note.rem r ∈ J.pend.drop vis → J.acq + n < (reqOf c r).s.toNat + c.L) :
    ∃ J', jstep c J (.acq n vis complete) = .ok J' := by
  have h1 : ¬ J.tl.length < J.acq + n := Nat.not_lt.2 hn
  have h2 : ¬ ((J.pend.take vis).filterMap (Note.req? c)).all
      (fun r => decide ((lookbackStart c.B J.eops : Int) ≤ r.s)) = false := by
    rw [Bool.not_eq_false, List.all_eq_true]
    exact fun r hr => decide_eq_true (hvis r hr)
  have h3 : ¬ (J.pend.drop vis).all (lateRemovalOk c (J.acq + n)) = false := by
    rw [Bool.not_eq_false, List.all_eq_true]
    intro nt hnt
    cases nt with
    | add i => rfl
    | rem i => exact decide_eq_true (hlate i hnt)
  simp only [jstep, if_neg h1, if_neg h2, if_neg h3]
  exact ⟨_, rfl⟩

theorem jrun_cons {c : Cfg} {ev : Ev} {evs : List Ev} {J J' : JState} (h : jrun c (ev :: evs) J = .ok J') :
    ∃ J1, jstep c J ev = .ok J1 ∧ jrun c evs J1 = .ok J' := by
  simp only [jrun] at h
  split at h
  · cases h
  · exact ⟨_, ‹_›, h⟩

theorem tick_added_prefix {q q' : QState} {c : Cell} (h : tick q = .ok (c, q')) : q.added <+: q'.added :=
  tickD_preserves (d := true) (I := fun s => q.added <+: s.added)
    (fun hb hi => by rw [hb]; exact hi)
    (fun hi hn => by
      obtain ⟨info, g, ha, _⟩ := nextTrial_obs hn
      rw [ha]; exact hi.trans (List.prefix_append _ _))
    (List.prefix_refl _) h

/-- needs no invariant beyond well-formedness, so it is available before `JInv` is -/
theorem jstep_mono (c : Cfg) {J J' : JState} {ev : Ev} (hw : WF J.q) (h : jstep c J ev = .ok J') :
    WF J'.q ∧ J.q.added <+: J'.q.added := by
  cases jstep_ok c h with
  | pop hp =>
    exact pop_induction (P := fun q1 _ => WF q1 ∧ J.q.added <+: q1.added)
      (fun ⟨w, p⟩ ht => ⟨tick_WF w ht, p.trans (tick_added_prefix ht)⟩) hw ⟨hw, List.prefix_refl _⟩ hp
  | pauseNone _ => exact ⟨WF_pause none hw, List.prefix_refl _⟩
  | @pauseSome m hm _ =>
    exact ⟨WF_pause (some m) hw, by simp only; rw [(pause_some_fields m J.q hm).1]; exact List.prefix_refl _⟩
  | resumeNone => exact ⟨WF_resume none hw, List.prefix_refl _⟩
  | @resumeSome m _ _ => exact ⟨WF_resume (some m) hw, List.prefix_refl _⟩
  | acq _ _ _ => exact ⟨hw, List.prefix_refl _⟩

theorem jrun_mono (c : Cfg) (evs : List Ev) {J J' : JState} (hw : WF J.q) (h : jrun c evs J = .ok J') :
    J.q.added <+: J'.q.added := by
  induction evs generalizing J with
  | nil => cases h; exact List.prefix_refl _
  | cons ev evs ih =>
    obtain ⟨J1, hs, hr⟩ := jrun_cons h
    obtain ⟨hw1, p1⟩ := jstep_mono c hw hs
    exact p1.trans (ih hw1 hr)

def isPause : Ev → Bool
  | .q (.pause (some _)) => true
  | _ => false

theorem SideOK_prefix {c : Cfg} {a b : List Info} (h : SideOK c b) (hp : a <+: b) : SideOK c a :=
  fun i hi => h i (hp.subset hi)

theorem JInv_step (c : Cfg) (henc : EncInj c) {J J' : JState} (ev : Ev) (inv : JInv c J)
    (h : jstep c J ev = .ok J') (hside : isPause ev = true → SideOK c J.q.added) : JInv c J' := by
  cases jstep_ok c h with
  | pop hp => exact JInv_pop c henc inv hp
  | pauseNone hi =>
    exact JInv_quiet c inv (QInv_pause_none inv.q hi) rfl rfl ⟨0, by simp [zeros]⟩
  | pauseSome hm hacq => exact JInv_pause_some c henc _ inv hm hacq (hside rfl)
  | resumeNone =>
    exact JInv_quiet c inv (QInv_resume_none inv.q) rfl rfl ⟨0, by simp [zeros]⟩
  | resumeSome hm hi =>
    exact JInv_quiet c inv (QInv_resume_some inv.q _ hm hi) rfl rfl ⟨_, rfl⟩
  | acq hn hvis hlate => exact JInv_acq c _ _ _ inv rfl rfl rfl hn hvis hlate

theorem JInv_run (c : Cfg) (henc : EncInj c) (evs : List Ev) {J J' : JState} (inv : JInv c J)
    (h : jrun c evs J = .ok J') (hside : (∃ ev ∈ evs, isPause ev = true) → SideOK c J'.q.added) :
    JInv c J' := by
  induction evs generalizing J with
  | nil => cases h; exact inv
  | cons ev evs ih =>
    have hp := jrun_mono c (ev :: evs) inv.q.wf h
    obtain ⟨J1, hs, hr⟩ := jrun_cons h
    have inv1 : JInv c J1 := JInv_step c henc ev inv hs
      (fun hpz => SideOK_prefix (hside ⟨ev, List.mem_cons_self, hpz⟩) hp)
    exact ih inv1 hr (fun ⟨e, he, hz⟩ => hside ⟨e, List.mem_cons_of_mem _ he, hz⟩)

/-- Under any dictionary key the extractor has delivered the epoch of the outstanding trial of that
key among the notifications it has seen, once the acquired stream has reached its last sample, and
nothing else: every earlier trial with the same key was cancelled and its removal seen in time. -/
theorem deliveries_key (c : Cfg) {J : JState} (inv : JInv c J) {seen : List Note} (g : GInv c J seen)
    (κ : Nat) : (deliveries c.B J.eops κ).flatten =
      (((altEnd none (onKey c κ seen)).filter (fun i => doneAt (reqOf c i) J.acq)).map
        (fun i => epochOf (streamOf J.eops) (reqOf c i))).toList := by
  rw [extract_refines_spec_seq c.B c.L J.eops inv.n.valid κ, flatten_emit, g.acc κ]
  cases (altEnd none (onKey c κ seen)).filter (fun i => doneAt (reqOf c i) J.acq) <;> rfl

end Psi.E2E

import PsiProofs.Helper.C02_Refine
/-! What one tick does (five cases), and what holds along any decrement schedule: well-formedness, the
clock, and the timeline invariant `TL` (the output of a pause-free run is the rendering of the notified
trials). `tick` is `tickD true`, so every statement about `tickD` / `runSched` covers `tick` / `runTicks`. -/
namespace Psi.Queue

def srcDone (s : QState) : Prop := ∀ src, s.source = some src → ¬ src.off < src.len

def dropSrc (s : QState) : QState := { s with source := none }

theorem dropSrc_of_none {s : QState} (h : s.source = none) : dropSrc s = s := by
  cases s; simp_all [dropSrc]

/-- the five things one tick can do; `nt` is the variant of `next_trial` it calls -/
inductive TickCaseG (nt : NT) (s : QState) (c : Cell) (s' : QState) : Prop
  | paused (hp : s.paused = true) (hc : c = .Z) (hs : s' = bump s)
  | play (src : Src) (hp : s.paused = false) (hsrc : s.source = some src) (hlt : src.off < src.len)
      (he : (c, s') = emitSrc s src)
  | gap (hp : s.paused = false) (hdone : srcDone s) (hd : s.delaySamples > 0) (hc : c = .Z)
      (hs : s' = bump { dropSrc s with delaySamples := s.delaySamples - 1 })
  | dry (hp : s.paused = false) (hdone : srcDone s) (hd : s.delaySamples ≤ 0)
      (hk : nextKey (dropSrc s) = .ok none) (hc : c = .Z)
      (hs : s' = bump { dropSrc s with empty := true })
  | start (s1 : QState) (src : Src) (hp : s.paused = false) (hdone : srcDone s) (hd : s.delaySamples ≤ 0)
      (hn : nt (dropSrc s) = .ok (some s1)) (hsrc : s1.source = some src) (hlt : src.off < src.len)
      (he : (c, s') = emitSrc s1 src)

abbrev TickCase := TickCaseG nextTrial

variable {d : Bool}

theorem afterSourceD_cases {s : QState} {c : Cell} {s' : QState} (hp : s.paused = false)
    (hdone : srcDone s) (h : afterSourceD d (dropSrc s) = .ok (c, s')) :
    TickCaseG (nextTrialD d) s c s' := by
  unfold afterSourceD at h
  split at h
  · rename_i hd
    cases h
    exact .gap hp hdone hd rfl rfl
  · rename_i hd
    split at h
    · cases h
    · rename_i hn
      cases h
      exact .dry hp hdone (Int.not_lt.1 hd) (nextTrialD_none_iff.1 hn) rfl rfl
    · rename_i s1 hn
      split at h
      · rename_i src hsrc
        split at h
        · rename_i hlt
          cases h
          exact .start s1 src hp hdone (Int.not_lt.1 hd) hn hsrc hlt rfl
        · cases h
      · cases h

theorem tickD_cases {s : QState} {c : Cell} {s' : QState} (h : tickD d s = .ok (c, s')) :
    TickCaseG (nextTrialD d) s c s' := by
  unfold tickD at h
  split at h
  · rename_i hp
    cases h
    exact .paused hp rfl rfl
  · rename_i hp
    have hp' : s.paused = false := by simpa using hp
    split at h
    · rename_i src hsrc
      split at h
      · rename_i hlt
        cases h
        exact .play src hp' hsrc hlt rfl
      · rename_i hx
        have h : afterSourceD d (dropSrc s) = .ok (c, s') := h
        exact afterSourceD_cases hp' (fun src' h' => by rw [hsrc] at h'; cases h'; exact hx) h
    · rename_i hsn
      rw [← dropSrc_of_none hsn] at h
      exact afterSourceD_cases hp' (fun src h' => by rw [hsn] at h'; cases h') h

theorem tick_cases {s : QState} {c : Cell} {s' : QState} (h : tick s = .ok (c, s')) : TickCase s c s' :=
  tickD_cases (d := true) h

/-- `s'` differs from `s` at most in the fields that playing samples writes -/
def SameBook (s s' : QState) : Prop :=
  s' = { s with source := s'.source, delaySamples := s'.delaySamples, samples := s'.samples, empty := s'.empty }

/-- A tick touches the book-keeping fields (`data`, `ordering`, the logs, the policy's cursors) only
through `next_trial`. -/
theorem tickD_preserves {I : QState → Prop} (book : ∀ {s s'}, SameBook s s' → I s → I s')
    (next : ∀ {s s1}, I s → nextTrialD d s = .ok (some s1) → I s1)
    {s s' : QState} {c : Cell} (hi : I s) (h : tickD d s = .ok (c, s')) : I s' := by
  cases tickD_cases h with
  | paused _ _ hs => subst hs; exact book (s := s) rfl hi
  | play src _ _ _ he => cases he; exact book (s := s) rfl hi
  | gap _ _ _ _ hs => subst hs; exact book (s := s) rfl hi
  | dry _ _ _ _ _ hs => subst hs; exact book (s := s) rfl hi
  | start s1 src _ _ _ hn _ _ he =>
    cases he; exact book (s := s1) rfl (next (book (s' := dropSrc s) rfl hi) hn)

theorem emitSrc_fields (s : QState) (src : Src) :
    (emitSrc s src).1 = Cell.W src.key src.off ∧ (emitSrc s src).2.paused = s.paused ∧
    (emitSrc s src).2.samples = s.samples + 1 ∧ (emitSrc s src).2.added = s.added ∧
    (emitSrc s src).2.delaySamples = s.delaySamples ∧ (emitSrc s src).2.data = s.data ∧
    (emitSrc s src).2.generated = s.generated ∧ (emitSrc s src).2.removed = s.removed := by
  simp [emitSrc, bump]

theorem emitSrc_WF {s : QState} {src : Src} (hw : WF s) (hs : s.source = some src) (hlt : src.off < src.len) :
    WF (emitSrc s src).2 :=
  have h := WF_advance (j := 1) hw hs hlt
  ⟨h.data, h.src⟩

theorem tickD_WF {s s' : QState} {c : Cell} (hw : WF s) (h : tickD d s = .ok (c, s')) : WF s' := by
  cases tickD_cases h with
  | paused _ _ hs => subst hs; exact ⟨hw.data, hw.src⟩
  | play src _ hsrc hlt he => cases he; exact emitSrc_WF hw hsrc hlt
  | gap _ _ _ _ hs => subst hs; exact ⟨hw.data, fun _ h => nomatch h⟩
  | dry _ _ _ _ _ hs => subst hs; exact ⟨hw.data, fun _ h => nomatch h⟩
  | start s1 src _ _ _ hn hsrc hlt he =>
    cases he
    exact emitSrc_WF (nextTrialD_WF (s := dropSrc s) ⟨hw.data, fun _ h => nomatch h⟩ hn).1 hsrc hlt

theorem tickD_samples {s s' : QState} {c : Cell} (h : tickD d s = .ok (c, s')) :
    s'.samples = s.samples + 1 := by
  cases tickD_cases h with
  | paused _ _ hs => subst hs; rfl
  | play src _ _ _ he => cases he; rfl
  | gap _ _ _ _ hs => subst hs; rfl
  | dry _ _ _ _ _ hs => subst hs; rfl
  | start s1 src _ _ _ hn _ _ he =>
    obtain ⟨_, _, _, _, _, _, _, _, _, hsm, _⟩ := nextTrialD_obs hn
    cases he
    exact congrArg (· + 1) hsm

theorem tick_WF {s s' : QState} {c : Cell} (hw : WF s) (h : tick s = .ok (c, s')) : WF s' :=
  tickD_WF (d := true) hw h

theorem tick_samples {s s' : QState} {c : Cell} (h : tick s = .ok (c, s')) : s'.samples = s.samples + 1 :=
  tickD_samples (d := true) h

theorem runSched_induct {I : List Cell → QState → Prop} (l : List Bool)
    (step : ∀ d ∈ l, ∀ {out s c s'}, I out s → tickD d s = .ok (c, s') → I (out ++ [c]) s')
    {out cs : List Cell} {s s' : QState} (h0 : I out s) (h : runSched l s = .ok (cs, s')) :
    I (out ++ cs) s' ∧ cs.length = l.length := by
  induction l generalizing s out cs with
  | nil => cases h; simpa using h0
  | cons d l ih =>
    rw [runSched] at h
    split at h
    · cases h
    · rename_i c s1 ht
      split at h
      · cases h
      · rename_i cs2 s2 hr
        cases h
        have := ih (fun d hd => step d (List.mem_cons_of_mem _ hd)) (step d List.mem_cons_self h0 ht) hr
        simpa using this

theorem runTicks_preserves {I : QState → Prop} (step : ∀ {s c s'}, I s → tick s = .ok (c, s') → I s')
    (n : Nat) {s s' : QState} {cs : List Cell} (h0 : I s) (h : runTicks n s = .ok (cs, s')) : I s' := by
  rw [← runTicksD_true] at h
  refine (runSched_induct (I := fun _ s => I s) (out := []) _ ?_ h0 h).1
  intro d hd out s c s' hi ht
  rw [List.eq_of_mem_replicate hd] at ht
  exact step hi ht

theorem runSched_inv (l : List Bool) {s s' : QState} {cs : List Cell} (hw : WF s)
    (h : runSched l s = .ok (cs, s')) :
    WF s' ∧ s'.samples = s.samples + (l.length : Nat) ∧ cs.length = l.length := by
  obtain ⟨⟨hw', hc⟩, hl⟩ := runSched_induct (out := [])
    (I := fun out t => WF t ∧ t.samples = s.samples + (out.length : Nat)) l
    (fun d _ out t c t' hi ht => ⟨tickD_WF hi.1 ht, by rw [tickD_samples ht, hi.2, List.length_append, List.length_singleton, Int.natCast_succ, Int.add_assoc]⟩)
    ⟨hw, by simp⟩ h
  exact ⟨hw', by rw [hc, List.nil_append, hl], hl⟩

theorem runTicks_inv (n : Nat) {s s' : QState} {cs : List Cell} (hw : WF s)
    (h : runTicks n s = .ok (cs, s')) : WF s' ∧ s'.samples = s.samples + (n : Nat) ∧ cs.length = n := by
  rw [← runTicksD_true] at h
  simpa using runSched_inv _ hw h

/-- what is already committed to be played from state `s`: rest of the waveform, then its delay -/
def rest (s : QState) : List Cell :=
  (match s.source with
   | some src => wave src.key src.off (src.len - src.off)
   | none => []) ++ zeros s.delaySamples.toNat

def Dry (s : QState) : Prop := s.source = none ∧ s.delaySamples ≤ 0 ∧ nextKey s = .ok none

structure TL (s0 : QState) (out : List Cell) (s : QState) : Prop where
  np : s.paused = false
  clock : s.samples = s0.samples + (out.length : Nat)
  ext : ∃ new z, s.added = s0.added ++ new ∧
        out ++ rest s = rest s0 ++ render new ++ zeros z ∧ (0 < z → Dry s) ∧
        PosOK (s0.samples + ((rest s0).length : Nat)) new

theorem TL_init (s0 : QState) (hp : s0.paused = false) : TL s0 [] s0 :=
  ⟨hp, by simp, [], 0, by simp, by simp [render], by simp, by intro j h; simp at h⟩

theorem rest_emit (s : QState) (src : Src) (hs : s.source = some src) (hlt : src.off < src.len) :
    rest s = Cell.W src.key src.off :: rest (emitSrc s src).2 := by
  have h1 : src.len - src.off = (src.len - (src.off + 1)) + 1 := by
    rw [Nat.sub_add_eq, Nat.sub_add_cancel (Nat.sub_pos_of_lt hlt)]
  simp only [rest, hs, emitSrc, bump]
  rw [h1, wave_succ]
  by_cases hc : (src.gen && decide (src.off + 1 ≥ src.len)) = true
  · simp only [hc, if_true]
    simp only [Bool.and_eq_true, decide_eq_true_eq] at hc
    have : src.len - (src.off + 1) = 0 := Nat.sub_eq_zero_of_le hc.2
    simp [this]
  · simp only [hc, if_false, Bool.false_eq_true]
    simp

theorem rest_dropSrc (s : QState) (hd : srcDone s) : rest (dropSrc s) = rest s := by
  simp only [rest, dropSrc]
  cases hs : s.source with
  | none => rfl
  | some src =>
    have : src.len - src.off = 0 := Nat.sub_eq_zero_of_le (Nat.not_lt.1 (hd src hs))
    simp [this]

theorem rest_of_none {s : QState} (hs : s.source = none) : rest s = zeros s.delaySamples.toNat := by
  simp only [rest, hs, List.nil_append]

theorem rest_srcDone {s : QState} (hdone : srcDone s) : rest s = zeros s.delaySamples.toNat := by
  rw [← rest_dropSrc s hdone]; exact rest_of_none rfl

theorem rest_nil {s : QState} (hdone : srcDone s) (hd : s.delaySamples ≤ 0) : rest s = [] := by
  rw [rest_srcDone hdone, Int.toNat_of_nonpos hd]; rfl

theorem TL_stepD {s0 s s' : QState} {out : List Cell} {c : Cell} (inv : TL s0 out s)
    (h : tickD d s = .ok (c, s')) : TL s0 (out ++ [c]) s' := by
  obtain ⟨np, clock, new, z, hadd, heq, hdry, hpos⟩ := inv
  have hclk : s.samples + 1 = s0.samples + ((out ++ [c]).length : Nat) := by
    rw [clock, List.length_append, List.length_singleton, Int.natCast_succ, Int.add_assoc]
  cases tickD_cases h with
  | paused hp _ _ => rw [np] at hp; cases hp
  | play src _ hsrc hlt he =>
    cases he
    refine ⟨np, hclk, new, z, hadd, ?_, ?_, hpos⟩
    · rw [← heq, rest_emit s src hsrc hlt, List.append_assoc]; rfl
    · intro hz; have := (hdry hz).1; rw [hsrc] at this; cases this
  | gap _ hdone hd hc hs =>
    subst hs hc
    refine ⟨np, hclk, new, z, hadd, ?_, ?_, hpos⟩
    · have : s.delaySamples.toNat = (s.delaySamples - 1).toNat + 1 := by
        rw [show (1 : Int) = ((1 : Nat) : Int) from rfl, Int.toNat_sub',
          Nat.sub_add_cancel (Int.pos_iff_toNat_pos.1 hd)]
      rw [← heq, rest_srcDone hdone, this, zeros_succ, List.append_assoc]; rfl
    · intro hz; exact absurd hd (Int.not_lt.2 (hdry hz).2.1)
  | dry _ hdone hd hk hc hs =>
    subst hs hc
    have hr := rest_nil hdone hd
    refine ⟨np, hclk, new, z + 1, hadd, ?_, ?_, hpos⟩
    · rw [hr, List.append_nil] at heq
      show out ++ [Cell.Z] ++ rest (dropSrc s) = _
      rw [rest_dropSrc s hdone, hr, heq, zeros_succ']; simp
    · intro _
      exact ⟨rfl, hd, nextKey_none_indep (s := dropSrc s) true (s.samples + 1) hk⟩
  | start s1 src _ hdone hd hn hsrc hlt he =>
    have hc : c = Cell.W src.key src.off := congrArg Prod.fst he
    have hs' : s' = (emitSrc s1 src).2 := congrArg Prod.snd he
    subst hc hs'
    have hz : z = 0 := by
      rcases Nat.eq_zero_or_pos z with hz | hz
      · exact hz
      · obtain ⟨hsn, _, hkn⟩ := hdry hz
        rw [dropSrc_of_none hsn, nextTrialD_none_iff.2 hkn] at hn
        cases hn
    subst hz
    obtain ⟨info, g, ha, _, hk, _, hs1, hdl, hd0, hsm, hpa, _, _, _⟩ := nextTrialD_obs hn
    rw [hs1] at hsrc
    cases hsrc
    have hrs1 : rest s1 = wave info.key 0 info.len ++ zeros info.delay.toNat := by
      simp only [rest, hs1, hdl, Nat.sub_zero]
    rw [rest_nil hdone hd, List.append_nil, zeros_zero, List.append_nil] at heq
    refine ⟨hpa.trans np, (congrArg (· + 1) hsm).trans hclk, new ++ [info], 0,
      by rw [← List.append_assoc, ← hadd]; exact ha, ?_, fun h => absurd h (Nat.lt_irrefl 0), ?_⟩
    · have hr1 := rest_emit s1 _ hs1 hlt
      rw [List.append_assoc, List.singleton_append, ← hr1, hrs1, heq, render_append, zeros_zero,
        List.append_nil, List.append_assoc]
      simp [render]
    · apply PosOK_snoc hpos
      rw [hk]
      show s.samples = _
      rw [clock, heq, List.length_append, Int.natCast_add, Int.add_assoc]

theorem TL_runSched {s0 : QState} (l : List Bool) {s s' : QState} {out cs : List Cell}
    (inv : TL s0 out s) (h : runSched l s = .ok (cs, s')) : TL s0 (out ++ cs) s' :=
  (runSched_induct (I := TL s0) l (fun _ _ _ _ _ _ hi ht => TL_stepD hi ht) inv h).1

/-- nothing is pending: a new queue, or one just resumed after `pause(t)` -/
def Fresh (s : QState) : Prop := s.paused = false ∧ s.source = none ∧ s.delaySamples = 0

theorem timeline_sched {l : List Bool} {s s' : QState} {out : List Cell} (hf : Fresh s)
    (h : runSched l s = .ok (out, s')) :
    ∃ new z, s'.added = s.added ++ new ∧ out ++ rest s' = render new ++ zeros z ∧
      PosOK s.samples new := by
  obtain ⟨_, _, new, z, ha, he, _, hp⟩ := TL_runSched l (TL_init s hf.1) h
  have hr : rest s = [] := by simp [rest, hf.2.1, hf.2.2]
  simp only [hr, List.nil_append, List.length_nil] at he hp
  exact ⟨new, z, ha, he, by simpa using hp⟩

theorem append_of_refines {pop : Nat → QState → Except Err (List Cell × QState)}
    (href : ∀ {n s}, WF s → 0 < n → pop n s = runTicksD d n s)
    {a b : Nat} {s : QState} (hw : WF s) (ha : 0 < a) (hb : 0 < b) :
    pop (a + b) s =
      match pop a s with
      | .error e => .error e
      | .ok (o1, s1) =>
        match pop b s1 with
        | .error e => .error e
        | .ok (o2, s2) => .ok (o1 ++ o2, s2) := by
  rw [href hw (Nat.add_pos_left ha b), href hw ha, runTicksD_add]
  cases h : runTicksD d a s with
  | error e => rfl
  | ok r =>
    obtain ⟨o1, s1⟩ := r
    simp only
    rw [href (runSched_inv _ hw h).1 hb]
    rfl

/-- the part of the state that only `decrement_key` writes -/
def SameCounters (s s' : QState) : Prop :=
  s'.ordering = s.ordering ∧ s'.complete = s.complete ∧ ∀ k, trialsOf s' k = trialsOf s k

theorem SameCounters.refl (s : QState) : SameCounters s s := ⟨rfl, rfl, fun _ => rfl⟩

theorem SameCounters.trans {a b c : QState} (h1 : SameCounters a b) (h2 : SameCounters b c) :
    SameCounters a c :=
  ⟨h2.1.trans h1.1, h2.2.1.trans h1.2.1, fun k => (h2.2.2 k).trans (h1.2.2 k)⟩

theorem SameBook.counters {s s' : QState} (hb : SameBook s s') : SameCounters s s' :=
  ⟨by rw [hb], by rw [hb], fun k => by rw [hb]; rfl⟩

theorem tickND_counters {s s' : QState} {c : Cell} (h : tickD false s = .ok (c, s')) :
    SameCounters s s' :=
  tickD_preserves (d := false) (I := SameCounters s) (fun hb hi => hi.trans hb.counters)
    (fun hi hn => hi.trans (nextTrialND_counters hn)) (SameCounters.refl s) h

theorem runSchedND_counters (l : List Bool) (hl : ∀ d ∈ l, d = false) {s s' : QState} {cs : List Cell}
    (h : runSched l s = .ok (cs, s')) : SameCounters s s' := by
  refine (runSched_induct (I := fun _ t => SameCounters s t) (out := []) l ?_ (SameCounters.refl s) h).1
  intro d hd out t c t' hi ht
  rw [hl d hd] at ht
  exact hi.trans (tickND_counters ht)

/-! the same directly on the code's loop (no well-formedness needed) -/

theorem popIterG_frame {nt : NT} {n : Nat} {s s' : QState} {w : List Cell}
    (h : popIterG nt n s = .ok (w, s')) : SameBook s s' ∨ nt s = .ok (some s') := by
  by_cases hp : s.paused = true
  · rw [popIterG_paused hp] at h; cases h; exact .inl rfl
  have hp : s.paused = false := by simpa using hp
  cases hs : s.source with
  | some src =>
    by_cases hg : src.gen = true
    · rw [popIterG_gen hp hs hg] at h; cases h; exact .inl rfl
    · rw [popIterG_arr hp hs (by simpa using hg)] at h
      split at h <;> (cases h; exact .inl rfl)
  | none =>
    by_cases hd : s.delaySamples > 0
    · rw [popIterG_delay hp hs hd] at h; cases h; exact .inl rfl
    · rw [popIterG_next hp hs hd] at h
      split at h
      · cases h
      · cases h; exact .inl rfl
      · cases h; exact .inr ‹_›

theorem popIterND_counters {n : Nat} {s s' : QState} {w : List Cell}
    (h : popIterND n s = .ok (w, s')) : SameCounters s s' := by
  rw [popIterND_eq_G] at h
  rcases popIterG_frame h with hb | hn
  · exact hb.counters
  · exact nextTrialND_counters hn

theorem popLoopND_counters (fuel n : Nat) {s s' : QState} {out : List Cell}
    (h : popLoopND fuel n s = .ok (out, s')) : SameCounters s s' := by
  induction fuel generalizing n s out with
  | zero =>
    cases n with
    | zero => cases h; exact SameCounters.refl _
    | succ n => cases h
  | succ fuel ih =>
    cases n with
    | zero => cases h; exact SameCounters.refl _
    | succ n =>
      rw [popLoopND] at h
      split at h
      · cases h
      · rename_i w s1 h1
        split at h
        · cases h
        · rename_i ws s2 h2
          cases h
          exact (popIterND_counters h1).trans (ih _ h2)

end Psi.Queue

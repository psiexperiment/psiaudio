import PsiModel.PData
/-! Algebra of the NumPy layer: `cart` (offsets of an indexing result), `blocks`/`interleave`
(`np.concatenate`), used by the general split + concat theorems. -/
namespace Psi.PData

theorem cart_single (ps : List Nat) : cart [ps] = ps := by
  induction ps <;> simp_all [cart]

theorem prod_single (n : Nat) : prod [n] = n := by simp [prod]

theorem prod_nil : prod [] = 1 := rfl
theorem prod_cons (x : Nat) (l : List Nat) : prod (x :: l) = x * prod l := by
  simp only [prod, ← List.prod_eq_foldl, List.prod_cons]

theorem cart_cons (X : List Nat) (Q : List (List Nat)) :
    cart (X :: Q) = X.flatMap fun o => (cart Q).map (o + ·) := rfl

theorem cart_flatMap_axis {α} (l : List α) (f : α → List Nat) (Q : List (List Nat)) :
    cart ((l.flatMap f) :: Q) = l.flatMap fun x => cart (f x :: Q) := by
  simp [cart, List.flatMap_assoc]

theorem cart_append (P R : List (List Nat)) :
    cart (P ++ R) = (cart P).flatMap fun o => (cart R).map (o + ·) := by
  induction P with
  | nil => simp [cart]
  | cons X P ih =>
    simp only [List.cons_append, cart, ih, List.map_flatMap, List.flatMap_assoc, List.flatMap_map, List.map_map]
    congr 1; funext x; congr 1; funext o; congr 1; funext r
    simp [Nat.add_assoc]

theorem cart_length (axes : List (List Nat)) : (cart axes).length = prod (axes.map List.length) := by
  induction axes with
  | nil => rfl
  | cons X Q ih =>
    rw [cart_cons, List.length_flatMap]
    simp only [List.length_map, List.map_const', List.sum_replicate_nat, List.map_cons, prod_cons, ih]

theorem blocks_flatMap {α} (l : List α) (f : α → List Nat) (L : Nat) (h : ∀ x ∈ l, (f x).length = L) :
    blocks L l.length (l.flatMap f) = l.map f := by
  induction l with
  | nil => rfl
  | cons x xs ih =>
    have hx := h x (by simp)
    have ih' := ih (fun y hy => h y (by simp [hy]))
    simp only [List.length_cons, blocks, List.flatMap_cons, List.map_cons]
    split
    · rename_i h0
      subst h0
      have e1 : f x = [] := List.eq_nil_of_length_eq_zero hx
      have e2 : ∀ y ∈ xs, f y = [] := fun y hy => List.eq_nil_of_length_eq_zero (h y (by simp [hy]))
      rw [e1, List.replicate_succ]
      congr 1
      symm
      rw [List.eq_replicate_iff]
      exact ⟨by simp, List.forall_mem_map.2 e2⟩
    · rw [List.take_left' hx, List.drop_left' hx, ih']

theorem blocks_map (g : Nat → Nat) (L fuel : Nat) (l : List Nat) :
    blocks L fuel (l.map g) = (blocks L fuel l).map (List.map g) := by
  induction fuel generalizing l with
  | zero => rfl
  | succ k ih =>
    simp only [blocks]
    split
    · simp
    · simp [← List.map_take, ← List.map_drop, ih]

theorem interleave_map {α β} (pcs : List β) (l : List α) (g : β → α → List Nat) :
    interleave (pcs.map fun p => l.map (g p)) l.length = l.flatMap fun x => pcs.flatMap fun p => g p x := by
  induction l with
  | nil => rfl
  | cons x xs ih =>
    simp only [List.length_cons, interleave, List.map_cons, List.flatMap_cons, List.map_map]
    congr 1
    simp [List.flatMap_map]

theorem range_flatMap_block (a b : Nat) :
    (List.range a).flatMap (fun i => (List.range b).map (i * b + ·)) = List.range (a * b) := by
  induction a with
  | zero => simp
  | succ k ih =>
    rw [List.range_succ, List.flatMap_append, ih, Nat.succ_mul, List.range_add]
    simp

theorem map_getD_range {α} (data : List α) (d : α) : (List.range data.length).map (fun o => data.getD o d) = data := by
  apply List.ext_getElem
  · simp
  · intro i h1 h2; simp at h1 ⊢; simp [List.getElem?_eq_getElem h1]

end Psi.PData

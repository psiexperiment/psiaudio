import PsiProofs.Helper.C06_Timeline
import PsiProofs.Helper.C06_Alt
/-!
The joint invariant of the composed system.

It carries a ghost: `seen`, the notifications already handed to the extractor, in issue order
(`seen ++ J.pend` is everything the queue ever issued).  Per dictionary key the issued stream
alternates (`AltM`, Helper/C06_Alt): a `pop` notifies a trial under a key only when no trial with
that key is still logged, a `pause(m)` cancels only logged trials.  The C05 spec machine of every
key follows the outstanding trial of the seen stream, which puts the extractor history in C05's
`ValidSeq` for every run.
-/
namespace Psi.E2E
open Psi.Queue Psi.Extract

/-- What the theorems read of the notification flow without the ghost.  `remsPend` is admissibility:
a pending removal names a cancelled trial whose epoch the acquired stream has not completed. -/
structure NInv (c : Cfg) (J : JState) : Prop where
  reqs : allReqs J.eops ++ J.pend.filterMap (Note.req? c) = J.q.added.map (reqOf c)
  addsPend : ∀ i, Note.add i ∈ J.pend → i ∈ J.q.added
  remsPend : ∀ r, Note.rem r ∈ J.pend →
    r ∈ J.q.added ∧ r.uid ∈ J.q.removed ∧ J.acq < (reqOf c r).s.toNat + c.L
  valid : ValidSeq c.B c.L J.eops

/-- the ghost part: `seen` = the notifications handed to the extractor so far, in issue order -/
structure GInv (c : Cfg) (J : JState) (seen : List Note) : Prop where
  adds : (seen ++ J.pend).filterMap Note.add? = J.q.added
  seenReqs : allReqs J.eops = seen.filterMap (Note.req? c)
  rems : ∀ r, Note.rem r ∈ seen ++ J.pend → r.uid ∈ J.q.removed
  alt : ∀ κ, AltM none (onKey c κ (seen ++ J.pend))
  last : ∀ κ i, altEnd none (onKey c κ (seen ++ J.pend)) = some i → i.uid ∉ J.q.removed
  opn : ∀ κ, openAfter κ J.eops =
    ((altEnd none (onKey c κ seen)).filter (fun i => !doneAt (reqOf c i) J.acq)).map (reqOf c)
  acc : ∀ κ, (specReqs κ 0 none J.eops).filterMap id =
    (((altEnd none (onKey c κ seen)).filter (fun i => doneAt (reqOf c i) J.acq)).map (reqOf c)).toList

/-- Joint invariant of the composed system: the queue and its played timeline (`QInv`), the
extractor's stream = the acquired prefix of the timeline, and the notification flow. -/
structure JInv (c : Cfg) (J : JState) : Prop where
  q : QInv c.K0 J.q J.tl
  acq : J.acq ≤ J.tl.length
  stream : streamOf J.eops = J.tl.take J.acq
  tot : total J.eops = J.acq
  n : NInv c J
  g : ∃ seen, GInv c J seen

/-- what a queue must look like before anything was played -/
structure Start (q0 : QState) : Prop where
  data : ∀ (i : Nat) (e : Entry), q0.data[i]? = some e → 0 < e.len
  generated : q0.generated = []
  added : q0.added = []
  removed : q0.removed = []
  source : q0.source = none
  samples : q0.samples = 0

theorem NInv_of_GInv {c : Cfg} {J : JState} {seen : List Note} (g : GInv c J seen)
    (hv : ValidSeq c.B c.L J.eops)
    (hrem : ∀ r, Note.rem r ∈ J.pend → r ∈ J.q.added ∧ J.acq < (reqOf c r).s.toNat + c.L) : NInv c J :=
  ⟨by rw [g.seenReqs, ← List.filterMap_append, req?_eq_add?, g.adds],
   fun i hi => by rw [← g.adds]; exact mem_add?.2 (List.mem_append_right _ hi),
   fun r hr => ⟨(hrem r hr).1, g.rems r (List.mem_append_right _ hr), (hrem r hr).2⟩, hv⟩

theorem JInv_init (c : Cfg) (q0 : QState) (h : Start q0) : JInv c (JState.init c q0) := by
  have hv : ValidSeq c.B c.L ([] : List (Op Cell)) := trivial
  have hq : (JState.init c q0).q = q0 := rfl
  refine ⟨⟨by rw [hq]; exact ⟨h.data, by simp [h.source]⟩,
      by rw [hq]; simp [Once, h.generated, h.added, h.removed], ?_, ?_, ?_,
      by simp [JState.init, h.generated], by simp [JState.init, h.generated], ?_⟩,
    Nat.zero_le _, by simp [JState.init, streamOf], by simp [JState.init, total],
    NInv_of_GInv ?g hv (by simp [JState.init]), [], ?g⟩
  · simp [JState.init, zeros, h.samples]
  · intro _ src hs; simp [JState.init, h.source] at hs
  · simp [JState.init, h.added]
  · simp only [JState.init, h.generated]; exact Emb_nil _ _ _
  · refine ⟨by simp [JState.init, h.added], by simp [JState.init, allReqs], by simp [JState.init],
      by simp [JState.init, onKey, AltM], by simp [JState.init, onKey, altEnd], ?_, ?_⟩
    · intro κ; simp [JState.init, onKey, altEnd, openAfter, openK]
    · intro κ; simp [JState.init, onKey, altEnd, specReqs]

theorem uid_pairwise {added : List Info} (hu : added.map (·.uid) = List.range added.length) :
    added.Pairwise (fun a b => a.uid ≠ b.uid) :=
  List.pairwise_map.1 (by rw [hu]; exact List.nodup_range)

theorem uid_inj {added : List Info} (hu : added.map (·.uid) = List.range added.length) {a b : Info}
    (ha : a ∈ added) (hb : b ∈ added) (h : a.uid = b.uid) : a = b :=
  pairwise_inj (uid_pairwise hu) (fun _ _ r => r) a ha b hb h

theorem uid_lt_iff {added : List Info} (hu : added.map (·.uid) = List.range added.length) {u : Nat} :
    u < added.length ↔ ∃ r ∈ added, r.uid = u := by
  rw [← List.mem_range, ← hu, List.mem_map]

theorem logged_of_not_removed {K0 : Int} {q : QState} {tl : List Cell} (qi : QInv K0 q tl) {i : Info}
    (hi : i ∈ q.added) (hu : i.uid ∉ q.removed) : i ∈ q.generated := by
  have hlt : i.uid < q.added.length := (uid_lt_iff qi.uid).2 ⟨i, hi, rfl⟩
  rcases ((Once_nodup qi.once).2.2.2 i.uid).1 hlt with h | h
  · obtain ⟨g, hg, he⟩ := List.mem_map.1 h
    have : g = i := uid_inj qi.uid (qi.emb.gensub g hg) hi he
    rw [← this]; exact hg
  · exact absurd h hu

theorem outstanding_added {c : Cfg} {J : JState} {seen : List Note} (g : GInv c J seen) {κ : Nat}
    {l : List Note} (hl : ∀ n ∈ l, n ∈ seen ++ J.pend) {i : Info}
    (h : altEnd none (onKey c κ l) = some i) : i ∈ J.q.added ∧ (reqOf c i).key = κ := by
  rcases altEnd_mem h with h1 | h1
  · cases h1
  · obtain ⟨h2, h3⟩ := mem_onKey.1 h1
    exact ⟨by rw [← g.adds]; exact mem_add?.2 (hl _ h2), h3⟩

/-- a logged trial is the outstanding one of its key on every prefix of the issued stream that holds
its notification: its removal was never issued -/
theorem logged_outstanding {c : Cfg} {J : JState} {seen : List Note} (inv : JInv c J) (g : GInv c J seen)
    {l : List Note} (hl : l <+: seen ++ J.pend) {i : Info} (hi : i ∈ J.q.generated)
    (hadd : Note.add i ∈ l) : altEnd none (onKey c (reqOf c i).key l) = some i := by
  obtain ⟨l', hl⟩ := hl
  have halt := g.alt (reqOf c i).key
  rw [← hl, onKey_append, AltM_append] at halt
  rcases AltM_add_mem halt.1 (mem_onKey.2 ⟨hadd, rfl⟩) with h | h
  · have hr : Note.rem i ∈ seen ++ J.pend := hl ▸ List.mem_append_left _ (mem_onKey.1 h).1
    exact absurd (List.mem_map.2 ⟨i, hi, rfl⟩) ((Once_nodup inv.q.once).2.2.1 _ (g.rems i hr))
  · exact h

/-- A queue event as the joint invariant sees it: the queue moves to `q'`, the timeline to `tl'`
(unchanged below what was acquired), a batch `N` of notifications is issued.  `hkey`: `N` continues
the alternation of every key, ending on trials that are not cancelled. -/
theorem JInv_issue (c : Cfg) {J : JState} {seen : List Note} (inv : JInv c J) (g : GInv c J seen)
    {q' : QState} {tl' : List Cell} (N : List Note)
    (qi : QInv c.K0 q' tl') (hacq : J.acq ≤ tl'.length) (htl : tl'.take J.acq = J.tl.take J.acq)
    (hadd : q'.added = J.q.added ++ N.filterMap Note.add?)
    (hrem : ∀ u ∈ J.q.removed, u ∈ q'.removed)
    (hN : ∀ r, Note.rem r ∈ N → r ∈ q'.added ∧ r.uid ∈ q'.removed ∧ J.acq < (reqOf c r).s.toNat + c.L)
    (hkey : ∀ κ, AltM (altEnd none (onKey c κ (seen ++ J.pend))) (onKey c κ N) ∧
      ∀ i, altEnd (altEnd none (onKey c κ (seen ++ J.pend))) (onKey c κ N) = some i → i.uid ∉ q'.removed) :
    JInv c { J with q := q', tl := tl', pend := J.pend ++ N } := by
  have hold : ∀ i ∈ J.q.added, i ∈ q'.added := fun i hi => by rw [hadd]; exact List.mem_append_left _ hi
  refine ⟨qi, hacq, inv.stream.trans htl.symm, inv.tot, NInv_of_GInv ?g inv.n.valid ?_, seen, ?g⟩
  · refine ⟨?_, g.seenReqs, ?_, ?_, ?_, g.opn, g.acc⟩
    · simp only [← List.append_assoc, List.filterMap_append, g.adds, hadd]
    · intro r hr
      simp only [← List.append_assoc] at hr
      rcases List.mem_append.1 hr with hr | hr
      · exact hrem _ (g.rems r hr)
      · exact (hN r hr).2.1
    · intro κ
      simp only [← List.append_assoc]
      rw [onKey_append, AltM_append]
      exact ⟨g.alt κ, (hkey κ).1⟩
    · intro κ i hi
      simp only [← List.append_assoc] at hi
      rw [onKey_append, altEnd_append] at hi
      exact (hkey κ).2 i hi
  · intro r hr
    rcases List.mem_append.1 hr with hr | hr
    · exact ⟨hold r (inv.n.remsPend r hr).1, (inv.n.remsPend r hr).2.2⟩
    · exact ⟨(hN r hr).1, (hN r hr).2.2⟩

/-- `pop n`: the trials it notifies are new under their keys -/
theorem JInv_pop (c : Cfg) (henc : EncInj c) {J : JState} {n : Nat} {out : List Cell} {q' : QState}
    (inv : JInv c J) (h : popBuffer n J.q = .ok (out, q')) :
    JInv c { J with q := q', tl := J.tl ++ out,
                    pend := J.pend ++ (q'.added.drop J.q.added.length).map Note.add } := by
  obtain ⟨qi, hrem, new, hadd, _⟩ := QInv_pop inv.q h
  have hdrop : q'.added.drop J.q.added.length = new := by rw [hadd, List.drop_left]
  rw [hdrop]
  have hnd : q'.added.Nodup := (uid_pairwise qi.uid).imp fun h e => h (congrArg _ e)
  obtain ⟨_, hnn, hdisj⟩ := List.nodup_append.1 (hadd ▸ hnd)
  have hsub : ∀ i ∈ J.q.added, i ∈ q'.added := fun i hi => by rw [hadd]; exact List.mem_append_left _ hi
  have hnew : ∀ i ∈ new, i ∈ q'.added := fun i hi => by rw [hadd]; exact List.mem_append_right _ hi
  -- the new trials were not cancelled, hence are logged
  have hnewrem : ∀ i ∈ new, i.uid ∉ J.q.removed := by
    intro i hi hu
    have hlt : i.uid < J.q.added.length := ((Once_nodup inv.q.once).2.2.2 i.uid).2 (Or.inr hu)
    obtain ⟨r0, hr0, he⟩ := (uid_lt_iff inv.q.uid).1 hlt
    have : r0 = i := uid_inj qi.uid (hsub r0 hr0) (hnew i hi) he
    subst this
    exact hdisj r0 hr0 r0 hi rfl
  have hlogged : ∀ i ∈ q'.added, i.uid ∉ J.q.removed → i ∈ q'.generated :=
    fun i hi hu => logged_of_not_removed qi hi (by rw [hrem]; exact hu)
  have hnewlog : ∀ i ∈ new, i ∈ q'.generated := fun i hi => hlogged i (hnew i hi) (hnewrem i hi)
  obtain ⟨seen, g⟩ := inv.g
  have hcase : ∀ κ, onKey c κ (new.map Note.add) = [] ∨
      ∃ i ∈ new, (reqOf c i).key = κ ∧ onKey c κ (new.map Note.add) = [Note.add i] :=
    fun κ => onKey_le_one c henc κ new Note.add (fun _ => rfl) hnn
      (fun a ha b hb => sorted_inj qi.sorted a (hnewlog a ha) b (hnewlog b hb))
  -- a logged trial with the key of a new one would have the same start
  have hfree : ∀ κ i', i' ∈ new → (reqOf c i').key = κ →
      altEnd none (onKey c κ (seen ++ J.pend)) = none := by
    intro κ i' hi' hk'
    cases ho : altEnd none (onKey c κ (seen ++ J.pend)) with
    | none => rfl
    | some i =>
      exfalso
      obtain ⟨h1, h2⟩ := outstanding_added g (fun _ hn => hn) ho
      have hg1 := hlogged i (hsub i h1) (g.last κ i ho)
      have hk : i.k = i'.k := (henc _ _ _ _ (h2.trans hk'.symm)).1
      have : i = i' := sorted_inj qi.sorted _ hg1 _ (hnewlog i' hi') hk
      subst this
      exact hdisj i h1 i hi' rfl
  refine JInv_issue c inv g (new.map Note.add) qi ?_ (List.take_append_of_le_length inv.acq)
    (by rw [filterMap_add?_adds]; exact hadd) (fun u hu => hrem ▸ hu) (fun r hr => by simp at hr) ?_
  · rw [List.length_append]; exact Nat.le_trans inv.acq (Nat.le_add_right _ _)
  · intro κ
    rw [hrem]
    rcases hcase κ with h0 | ⟨i', hi', hk', h1⟩
    · rw [h0]; exact ⟨trivial, g.last κ⟩
    · rw [h1, hfree κ i' hi' hk']
      refine ⟨trivial, fun i hi => ?_⟩
      simp only [altEnd, Option.some.injEq] at hi
      rw [← hi]; exact hnewrem i' hi'

/-- the epoch of a trial that ends after the pause position, and covers it, ends after everything
acquired up to the pause position -/
theorem epoch_open_of_cut {acq K0 P L : Nat} {k dur m : Int} (hacq : (acq : Int) ≤ (K0 : Int) + m)
    (hend : k + dur > m) (hcov : dur + (P : Int) ≤ (L : Int)) :
    acq < ((K0 : Int) + k - (P : Int)).toNat + L := by omega

/-- the property's side conditions on a notified trial, used where a `pause(m)` occurs: the trial
occupies at least its waveform on the grid, and the epoch covers the stimulus -/
def SideOK (c : Cfg) (added : List Info) : Prop :=
  ∀ i ∈ added, (i.len : Int) ≤ i.dur ∧ i.dur + (c.P : Int) ≤ (c.L : Int)

/-- `pause(m)`: every trial it cancels is the outstanding one of its key -/
theorem JInv_pause_some (c : Cfg) (henc : EncInj c) {J : JState} (m : Int) (inv : JInv c J)
    (hm : m ≤ J.q.samples) (hacq : (J.acq : Int) ≤ (c.K0 : Int) + m)
    (hside : SideOK c J.q.added) :
    JInv c { J with q := (pause (some m) J.q).1, tl := J.tl.take ((c.K0 : Int) + m).toNat,
                    pend := J.pend ++ ((J.q.generated.reverse.filter (endsAfter m)).map Note.rem) } := by
  obtain ⟨ha, hg, hr, hs, hd, hp, hsm⟩ := pause_some_fields m J.q hm
  have qi := QInv_pause_some inv.q m hm (by omega) (fun i hi => (hside i hi).1)
  have hlen := inv.q.len
  have hmemrem : ∀ r, r ∈ J.q.generated.reverse.filter (endsAfter m) →
      r ∈ J.q.generated ∧ r ∈ J.q.added ∧ r.k + r.dur > m := by
    intro r hr
    simp only [List.mem_filter, List.mem_reverse, endsAfter, decide_eq_true_eq] at hr
    exact ⟨hr.1, inv.q.emb.gensub r hr.1, hr.2⟩
  obtain ⟨seen, g⟩ := inv.g
  generalize hR : J.q.generated.reverse.filter (endsAfter m) = R at hmemrem hr ⊢
  have hgn : J.q.generated.Pairwise (fun a b => b ≠ a) :=
    inv.q.sorted.imp fun {a b} h (e : b = a) => Int.lt_irrefl a.k (e ▸ h)
  have hRn : R.Nodup := by rw [← hR]; exact (List.pairwise_reverse.2 hgn).filter _
  have hcase : ∀ κ, onKey c κ (R.map Note.rem) = [] ∨
      ∃ j ∈ R, (reqOf c j).key = κ ∧ onKey c κ (R.map Note.rem) = [Note.rem j] :=
    fun κ => onKey_le_one c henc κ R Note.rem (fun _ => rfl) hRn
      (fun a ha b hb he => sorted_inj inv.q.sorted _ (hmemrem a ha).1 _ (hmemrem b hb).1 he)
  have hout : ∀ κ j, j ∈ R → (reqOf c j).key = κ →
      altEnd none (onKey c κ (seen ++ J.pend)) = some j := by
    intro κ j hj hk
    obtain ⟨hjg, hja, _⟩ := hmemrem j hj
    rw [← hk]
    exact logged_outstanding inv g (List.prefix_refl _) hjg (mem_add?.1 (by rw [g.adds]; exact hja))
  have hcut : J.acq ≤ ((c.K0 : Int) + m).toNat := by omega
  refine JInv_issue c inv g (R.map Note.rem) qi ?_ ?_
    (by rw [filterMap_add?_rems, List.append_nil]; exact ha)
    (fun u hu => by rw [hr]; exact List.mem_append_left _ hu) ?_ ?_
  · rw [List.length_take]; exact Nat.le_min.2 ⟨hcut, inv.acq⟩
  · rw [List.take_take, Nat.min_eq_left hcut]
  · intro r hr'
    simp only [List.mem_map, Note.rem.injEq] at hr'
    obtain ⟨a, ha', rfl⟩ := hr'
    obtain ⟨_, h2, h3⟩ := hmemrem a ha'
    refine ⟨by rw [ha]; exact h2, ?_, ?_⟩
    · rw [hr]; exact List.mem_append_right _ (List.mem_map.2 ⟨a, ha', rfl⟩)
    · exact epoch_open_of_cut hacq h3 (hside a h2).2
  · intro κ
    rcases hcase κ with h0 | ⟨j, hj, hk, h1⟩
    · refine ⟨by rw [h0]; trivial, fun i hi hu => ?_⟩
      rw [h0] at hi
      rw [hr] at hu
      rcases List.mem_append.1 hu with hu | hu
      · exact g.last κ i hi hu
      · obtain ⟨j, hj, he⟩ := List.mem_map.1 hu
        obtain ⟨h1, h2⟩ := outstanding_added g (fun _ hn => hn) hi
        have : j = i := uid_inj inv.q.uid (hmemrem j hj).2.1 h1 he
        subst this
        have hmem : Note.rem j ∈ onKey c κ (R.map Note.rem) :=
          mem_onKey.2 ⟨List.mem_map.2 ⟨j, hj, rfl⟩, h2⟩
        rw [h0] at hmem; cases hmem
    · rw [h1, hout κ j hj hk]; exact ⟨⟨rfl, trivial⟩, fun i hi => by cases hi⟩

theorem JInv_quiet (c : Cfg) {J : JState} {q' : QState} {tl' : List Cell} (inv : JInv c J)
    (qi : QInv c.K0 q' tl') (ha : q'.added = J.q.added) (hr : q'.removed = J.q.removed)
    (htl : ∃ z, tl' = J.tl ++ zeros z) : JInv c { J with q := q', tl := tl' } := by
  obtain ⟨z, rfl⟩ := htl
  obtain ⟨seen, g⟩ := inv.g
  have := JInv_issue c inv g [] qi (by rw [List.length_append]; exact Nat.le_trans inv.acq (Nat.le_add_right _ _))
    (List.take_append_of_le_length inv.acq) (by rw [ha]; simp) (fun u hu => hr ▸ hu)
    (fun r h => by cases h) (fun κ => ⟨trivial, by rw [hr]; exact g.last κ⟩)
  simpa using this

theorem JInv_acq (c : Cfg) {J : JState} (n vis : Nat) (op : Op Cell) (inv : JInv c J)
    (hchunk : op.chunk = (J.tl.drop J.acq).take n)
    (hreqs : op.reqs = (J.pend.take vis).filterMap (Note.req? c))
    (hrems : op.rems = (J.pend.take vis).filterMap (Note.rem? c))
    (hn : J.acq + n ≤ J.tl.length)
    (hvis : ∀ r ∈ op.reqs, ((lookbackStart c.B J.eops : Nat) : Int) ≤ r.s)
    (hlate : ∀ r, Note.rem r ∈ J.pend.drop vis → J.acq + n < (reqOf c r).s.toNat + c.L) :
    JInv c { J with acq := J.acq + n, pend := J.pend.drop vis, eops := J.eops ++ [op] } := by
  have hlen : op.chunk.length = n := by
    rw [hchunk]; simp only [List.length_take, List.length_drop]; omega
  obtain ⟨seen, g⟩ := inv.g
  have hissued : (seen ++ J.pend.take vis) ++ J.pend.drop vis = seen ++ J.pend := by
    rw [List.append_assoc, List.take_append_drop]
  -- one key: the batch of this call continues the seen stream
  have hbatch : ∀ κ, AltM (altEnd none (onKey c κ seen)) (onKey c κ (J.pend.take vis)) := by
    intro κ
    have := g.alt κ
    rw [← hissued, onKey_append, onKey_append, AltM_append, AltM_append] at this
    exact this.1.2
  have hkey := fun κ => acq_key c κ (altEnd none (onKey c κ seen)) (onKey c κ (J.pend.take vis)) op J.acq
    (hbatch κ) (by rw [addsK, hreqs]; exact onKey_reqs c κ _) (by rw [hrems]; exact onKey_rems c κ _)
    (by
      intro i hmem
      have := (inv.n.remsPend i (List.mem_of_mem_take (mem_onKey.1 hmem).1)).2.2
      simp only [doneAt, decide_eq_false_iff_not]
      have := reqOf_len c i
      omega)
  refine ⟨inv.q, hn, ?_, ?_, NInv_of_GInv ?g ?_ ?_, seen ++ J.pend.take vis, ?g⟩
  · simp only [streamOf, List.map_append, List.flatten_append, List.map_cons, List.map_nil,
      List.flatten_cons, List.flatten_nil, List.append_nil]
    have := inv.stream
    simp only [streamOf] at this
    rw [this, hchunk, List.take_add]
  · rw [total_append, total_single, inv.tot, hlen]
  · refine ⟨?_, ?_, ?_, ?_, ?_, ?_, ?_⟩
    · simp only [hissued]; exact g.adds
    · simp only [allReqs_append, List.filterMap_append, g.seenReqs]
      simp [allReqs, hreqs]
    · simp only [hissued]; exact g.rems
    · simp only [hissued]; exact g.alt
    · simp only [hissued]; exact g.last
    · intro κ
      simp only
      rw [openAfter_snoc, g.opn κ, inv.tot, onKey_append, altEnd_append, (hkey κ).2.1, hlen]
    · intro κ
      simp only
      have h3 := (hkey κ).2.2
      rw [hlen] at h3
      rw [specReqs_snoc, List.filterMap_append, g.acc κ, g.opn κ, inv.tot, onKey_append, altEnd_append, ← h3]
      cases keyEmit κ J.acq _ op <;> rfl
  · -- the extended history is valid: the key discipline holds for every key
    have hov : OpValidSeq c.B c.L J.eops op := by
      refine ⟨?_, hvis, ?_⟩
      · intro r hr
        obtain ⟨i, _, rfl⟩ := mem_req?.1 (hreqs ▸ hr)
        rfl
      · intro κ
        rw [g.opn κ]
        exact (hkey κ).1
    exact (allValidSeq_append c.B c.L [] J.eops [op]).2 ⟨inv.n.valid, by simpa [AllValidSeq] using hov⟩
  · exact fun r hr => ⟨(inv.n.remsPend r (List.mem_of_mem_drop hr)).1, hlate r hr⟩

end Psi.E2E

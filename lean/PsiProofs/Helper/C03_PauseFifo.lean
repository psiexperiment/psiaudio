import PsiProofs.Helper.C03_Hist
import PsiProofs.Helper.C03_Fifo
/-!
FIFO across pauses. `requeue` walks the cancelled trials latest first and puts every key that has
left the ordering back at its front; "un-popping" the cancelled trials one by one, latest first,
restores exactly the sequence that was still to come when they were started.
-/
namespace Psi.Queue

/-- what `requeue` does for one cancelled trial of `k` -/
def unpop (p : List Nat × List Entry) (k : Nat) : List Nat × List Entry :=
  (if p.1.contains k then p.1 else k :: p.1, setTrials p.2 k (· + 1))

theorem requeue_unpop (keys : List Nat) (o : List Nat) (d : List Entry) :
    (insertFront o keys, keys.foldl (fun d k => setTrials d k (· + 1)) d) = keys.foldl unpop (o, d) := by
  induction keys generalizing o d with
  | nil => rfl
  | cons k ks ih =>
    simp only [insertFront, List.foldl_cons, unpop]
    exact ih _ _

theorem unpop_PF {n : Nat} {o : List Nat} {d : List Entry} {k : Nat} (h : PF n o d) (hk : k < n) :
    PF n (unpop (o, d) k).1 (unpop (o, d) k).2 := by
  have hkd : k < d.length := by rw [h.len]; exact hk
  have hself : trv (setTrials d k (· + 1)) k = trv d k + 1 := by rw [trv_setTrials _ _ _ hkd, if_pos rfl]
  have hlen : (setTrials d k (· + 1)).length = n := by rw [setTrials_length, h.len]
  simp only [unpop]
  by_cases hm : k ∈ o
  · rw [if_pos (List.contains_iff_mem.mpr hm)]
    refine ⟨hlen, h.nodup, fun k' hk' => ⟨(h.pos k' hk').1, ?_⟩, fun k' hk' hni => ?_⟩
    · by_cases e : k' = k
      · rw [e, hself]; exact Int.lt_add_one_of_le (Int.le_of_lt (h.pos k hm).2)
      · rw [trv_setTrials_ne d e]; exact (h.pos k' hk').2
    · rw [trv_setTrials_ne d (fun (e : k' = k) => hni (e ▸ hm))]; exact h.done k' hk' hni
  · rw [if_neg (fun hc => hm (List.contains_iff_mem.mp hc))]
    refine ⟨hlen, List.nodup_cons.mpr ⟨hm, h.nodup⟩, fun k' hk' => ?_, fun k' hk' hni => ?_⟩
    · rcases List.mem_cons.mp hk' with e | hk''
      · rw [e, hself, h.done k hk hm]; exact ⟨hk, by decide⟩
      · rw [trv_setTrials_ne d (fun (e : k' = k) => hm (e ▸ hk''))]; exact h.pos k' hk''
    · rw [trv_setTrials_ne d (fun (e : k' = k) => hni (e ▸ List.mem_cons_self))]
      exact h.done k' hk' (fun hmem => hni (List.mem_cons_of_mem _ hmem))

theorem fold_unpop_PF {n : Nat} (l : List Nat) {o : List Nat} {d : List Entry} (h : PF n o d)
    (hl : ∀ k ∈ l, k < n) : PF n (l.foldl unpop (o, d)).1 (l.foldl unpop (o, d)).2 := by
  induction l generalizing o d with
  | nil => exact h
  | cons x l ih =>
    simp only [List.foldl_cons]
    exact ih (unpop_PF h (hl x (by simp))) (fun k hk => hl k (by simp [hk]))

/-- un-popping a key that is not after any key of a sorted ordering puts it in front of the
sequence to come -/
theorem unpop_rs {n : Nat} {o : List Nat} {d : List Entry} {k : Nat} (h : PF n o d)
    (hs : o.Pairwise (· < ·)) (hk : k < n) (hle : ∀ k' ∈ o, k ≤ k') :
    (unpop (o, d) k).1.Pairwise (· < ·) ∧ rs (unpop (o, d) k).1 (unpop (o, d) k).2 = k :: rs o d := by
  have hkd : k < d.length := by rw [h.len]; exact hk
  have hself : trv (setTrials d k (· + 1)) k = trv d k + 1 := by rw [trv_setTrials _ _ _ hkd, if_pos rfl]
  have hrs : ∀ l : List Nat, k ∉ l → rs l (setTrials d k (· + 1)) = rs l d :=
    fun l hl => rs_congr l (fun k' hk' => trv_setTrials_ne d (fun (e : k' = k) => hl (e ▸ hk')))
  simp only [unpop]
  by_cases hm : k ∈ o
  · rw [if_pos (List.contains_iff_mem.mpr hm)]
    refine ⟨hs, ?_⟩
    cases o with
    | nil => cases hm
    | cons a rest =>
      have hka : k = a := by
        rcases List.mem_cons.mp hm with e | hr
        · exact e
        · exact absurd ((List.pairwise_cons.mp hs).1 k hr) (Nat.not_lt.mpr (hle a List.mem_cons_self))
      subst hka
      have e1 : (trv d k + 1).toNat = (trv d k).toNat + 1 :=
        Int.toNat_add_nat (Int.le_of_lt (h.pos k List.mem_cons_self).2) 1
      simp only [rs, List.flatMap_cons] at hrs ⊢
      rw [hself, e1, List.replicate_succ, List.cons_append, hrs rest (List.nodup_cons.mp h.nodup).1]
  · rw [if_neg (fun hc => hm (List.contains_iff_mem.mp hc))]
    refine ⟨List.pairwise_cons.mpr
      ⟨fun k' hk' => Nat.lt_of_le_of_ne (hle k' hk') (fun e => hm (e ▸ hk')), hs⟩, ?_⟩
    simp only [rs, List.flatMap_cons] at hrs ⊢
    rw [hself, h.done k hk hm, hrs o hm]
    rfl

theorem fold_unpop_rs {n : Nat} (l : List Nat) {o : List Nat} {d : List Entry} (h : PF n o d)
    (hs : o.Pairwise (· < ·)) (hl : ∀ k ∈ l, k < n) (hsort : (l.reverse ++ rs o d).Pairwise (· ≤ ·)) :
    (l.foldl unpop (o, d)).1.Pairwise (· < ·) ∧
    rs (l.foldl unpop (o, d)).1 (l.foldl unpop (o, d)).2 = l.reverse ++ rs o d := by
  induction l generalizing o d with
  | nil => exact ⟨hs, by simp⟩
  | cons x l ih =>
    simp only [List.foldl_cons]
    have hx : x < n := hl x (by simp)
    have hle : ∀ k' ∈ o, x ≤ k' := by
      intro k' hk'
      have hmem := mem_rs_of_pos hk' (h.pos k' hk').2
      rw [List.reverse_cons, List.append_assoc, List.pairwise_append] at hsort
      have := hsort.2.1
      simp only [List.singleton_append, List.pairwise_cons] at this
      exact this.1 k' hmem
    obtain ⟨hs1, hr1⟩ := unpop_rs h hs hx hle
    have h1 := unpop_PF h hx
    obtain ⟨b, c⟩ := ih h1 hs1 (fun k hk => hl k (by simp [hk])) (by
      rw [hr1]
      rw [List.reverse_cons, List.append_assoc] at hsort
      simpa using hsort)
    refine ⟨b, ?_⟩
    rw [c, hr1, List.reverse_cons, List.append_assoc]
    rfl

/-- FIFO facts that hold after every history -/
structure FifoH (n : Nat) (s : QState) : Prop where
  fi : FifoInv s
  len : s.data.length = n
  gk : ∀ i ∈ s.generated, i.key < n

def schedule (n : Nat) (req : Nat → Int) : List Nat :=
  (List.range n).flatMap (fun k => List.replicate (req k).toNat k)

/-- FIFO facts that hold after every history in which time never runs backwards -/
structure FifoSched (n : Nat) (req : Nat → Int) (s : QState) : Prop where
  h : FifoH n s
  sorted : s.ordering.Pairwise (· < ·)
  sched : s.generated.map (·.key) ++ remSeq s = schedule n req

theorem schedule_sorted (n : Nat) (req : Nat → Int) : (schedule n req).Pairwise (· ≤ ·) := by
  unfold schedule
  rw [List.pairwise_flatMap]
  refine ⟨?_, ?_⟩
  · intro a _
    rw [List.pairwise_replicate]
    right; exact Nat.le_refl a
  · refine (List.pairwise_lt_range (n := n)).imp ?_
    intro a b hab x hx y hy
    simp only [List.mem_replicate] at hx hy
    omega

theorem fifo_step {s s1 : QState} (hi : FifoInv s) (hn : nextTrial s = .ok (some s1)) :
    ∃ k rest info, s.ordering = k :: rest ∧ FifoInv s1 ∧ s1.generated = s.generated ++ [info] ∧
      info.key = k ∧ remSeq s = k :: remSeq s1 ∧ s1.ordering.Sublist (k :: rest) ∧
      s1.data.length = s.data.length := by
  cases ho : s.ordering with
  | nil =>
    rw [nextTrial_none_of (fifo_nextKey_nil hi ho)] at hn
    simp at hn
  | cons k rest =>
    obtain ⟨s1', hs1, hi1, hlog, hseq, hsub, hlen⟩ := fifo_nextTrial_cons hi ho
    rw [hn] at hs1
    simp only [Except.ok.injEq, Option.some.injEq] at hs1
    subst hs1
    obtain ⟨info, hkey, hg⟩ := nextTrial_generated hn hlog
    exact ⟨k, rest, info, rfl, hi1, hg, hkey, hseq, ho ▸ hsub, hlen⟩

theorem FifoH_same {n : Nat} {s s' : QState} (hi : FifoH n s) (hv : view s' = view s)
    (hg : s'.generated = s.generated) : FifoH n s' :=
  ⟨FifoInv_of_view hi.fi hv, by rw [show s'.data = s.data from congrArg PView.data hv]; exact hi.len,
   by rw [hg]; exact hi.gk⟩

theorem FifoH_step {n : Nat} {s s1 : QState} (hi : FifoH n s) (hn : nextTrial s = .ok (some s1)) :
    FifoH n s1 := by
  obtain ⟨k, rest, info, ho, hf, hg, hkey, _, _, hlen⟩ := fifo_step hi.fi hn
  refine ⟨hf, by rw [hlen]; exact hi.len, ?_⟩
  rw [hg]
  exact forall_mem_snoc hi.gk (hkey ▸ ((PF_of_FifoInv hi.fi hi.len).pos k (by simp [ho])).1)

theorem FifoSched_same {n : Nat} {req : Nat → Int} {s s' : QState} (hi : FifoSched n req s)
    (hv : view s' = view s) (hg : s'.generated = s.generated) : FifoSched n req s' := by
  have ho : s'.ordering = s.ordering := congrArg PView.ordering hv
  have hd : s'.data = s.data := congrArg PView.data hv
  exact ⟨FifoH_same hi.h hv hg, by rw [ho]; exact hi.sorted,
    by rw [hg, remSeq_eq_rs, ho, hd]; exact hi.sched⟩

theorem FifoSched_tick {n : Nat} {req : Nat → Int} {s s' : QState} {c : Cell} (hi : FifoSched n req s)
    (h : tick s = .ok (c, s')) : FifoSched n req s' := by
  refine tick_inv_of_step (I := FifoSched n req) FifoSched_same ?_ hi h
  intro s s1 hi hn
  obtain ⟨k, rest, info, ho, _, hg, hkey, hseq, hsub, _⟩ := fifo_step hi.h.fi hn
  refine ⟨FifoH_step hi.h hn, (ho ▸ hi.sorted).sublist hsub, ?_⟩
  rw [hg, ← hi.sched, hseq]
  simp [hkey]

theorem FifoH_pause {n : Nat} (m : Int) {s : QState} (hi : FifoH n s) : FifoH n (pause (some m) s).1 := by
  obtain ⟨ho, hd, hg, hk, _⟩ := pause_policy m s
  have hkeys := toRequeue_lt hi.gk m
  have hpf := fold_unpop_PF (toRequeue m s) (PF_of_FifoInv hi.fi hi.len) hkeys
  rw [← requeue_unpop] at hpf
  simp only at hpf
  refine ⟨FifoInv_of_PF (n := n) (by rw [hk]; exact hi.fi.kind) (by rw [hd]; exact DelaysOK_requeue _ hi.fi.delays)
    (by rw [ho, hd]; exact hpf), by rw [hd]; exact hpf.len, ?_⟩
  intro i hi'
  rw [hg] at hi'
  exact hi.gk i (List.mem_filter.mp hi').1

theorem FifoSched_pause {n : Nat} {req : Nat → Int} (m : Option Int) {s : QState} (ht : TimeInv s)
    (hi : FifoSched n req s) : FifoSched n req (pause m s).1 := by
  cases m with
  | none => exact FifoSched_same hi rfl rfl
  | some m =>
    obtain ⟨ho, hd, hg, _⟩ := pause_policy m s
    have hkeys := toRequeue_lt hi.h.gk m
    have hsplit := cancelled_suffix ht m
    have hsched := hi.sched
    rw [hsplit, List.map_append, List.append_assoc, remSeq_eq_rs] at hsched
    have hsort : ((toRequeue m s).reverse ++ rs s.ordering s.data).Pairwise (· ≤ ·) := by
      rw [toRequeue_reverse]
      have := schedule_sorted n req
      rw [← hsched] at this
      exact this.sublist (List.sublist_append_right _ _)
    obtain ⟨hsorted, hrs⟩ := fold_unpop_rs (toRequeue m s) (PF_of_FifoInv hi.h.fi hi.h.len) hi.sorted hkeys hsort
    rw [← requeue_unpop] at hsorted hrs
    simp only at hsorted hrs
    refine ⟨FifoH_pause m hi.h, by rw [ho]; exact hsorted, ?_⟩
    rw [remSeq_eq_rs, ho, hd, hrs, hg, toRequeue_reverse, ← hsched]

theorem FifoSched_resume {n : Nat} {req : Nat → Int} (m : Option Int) {s : QState}
    (hi : FifoSched n req s) : FifoSched n req (resume m s) := by
  cases m <;> exact FifoSched_same hi rfl rfl

theorem FifoH_init {s : QState} (h : Loaded s) (hk : s.kind = .fifo) (hg : s.generated = []) :
    FifoH s.data.length s :=
  ⟨FifoInv_of_Loaded h hk, rfl, by simp [hg]⟩

end Psi.Queue

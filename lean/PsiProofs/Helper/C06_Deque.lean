import PsiProofs.Helper.C06_Run
/-!
The code's own schedule is admissible.  `extract_epochs` drains both deques in every call; the queue
notifies at generation time, before the trial's samples are played, hence before they are acquired.
So a pending `added` notification names a trial that starts at or after the acquisition position,
and `visible_of_recent` (C05) puts it inside the look-back window as soon as the buffer covers the
pre-stimulus time.
-/
namespace Psi.E2E
open Psi.Queue Psi.Extract

/-- pending `added` notifications were issued before their samples were acquired -/
def DInv (c : Cfg) (J : JState) : Prop := ∀ i, Note.add i ∈ J.pend → (J.acq : Int) ≤ (c.K0 : Int) + i.k

theorem DInv_step (c : Cfg) {J J' : JState} (ev : Ev) (inv : JInv c J) (d : DInv c J)
    (h : jstep c J ev = .ok J') (hdrain : ∀ n vis cpl, ev = .acq n vis cpl → J.pend.length ≤ vis) :
    DInv c J' := by
  cases jstep_ok c h with
  | @pop n out q' hp =>
    -- a trial notified by this `pop` starts at or after the end of the timeline
    obtain ⟨_, _, new, hadd, hlate⟩ := QInv_pop inv.q hp
    intro i hi
    rcases List.mem_append.1 hi with hi | hi
    · exact d i hi
    · rw [hadd, List.drop_left] at hi
      simp only [List.mem_map, Note.add.injEq] at hi
      obtain ⟨a, ha, rfl⟩ := hi
      exact Int.le_trans (Int.ofNat_le.2 inv.acq) (hlate a ha)
  | pauseNone _ => exact d
  | pauseSome _ _ =>
    intro i hi
    rcases List.mem_append.1 hi with hi | hi
    · exact d i hi
    · simp at hi
  | resumeNone => exact d
  | resumeSome _ _ => exact d
  | @acq n vis complete _ _ _ =>
    intro i hi
    have : J.pend.drop vis = [] := List.drop_eq_nil_of_le (hdrain n vis complete rfl)
    simp only [this] at hi
    cases hi

theorem deque_step_ok (c : Cfg) {J : JState} (inv : JInv c J) (d : DInv c J) (hPB : c.P ≤ c.B)
    (hpre : ∀ i, Note.add i ∈ J.pend → (c.P : Int) ≤ (c.K0 : Int) + i.k)
    (n vis : Nat) (complete : Bool) (hn : J.acq + n ≤ J.tl.length) (hvis : J.pend.length ≤ vis) :
    ∃ J', jstep c J (.acq n vis complete) = .ok J' := by
  refine jstep_acq c J n vis complete hn ?_ ?_
  · intro r hr
    obtain ⟨i, hnt, rfl⟩ := mem_req?.1 hr
    have hi := List.mem_of_mem_take hnt
    have ha := d i hi
    have hp := hpre i hi
    have := reqOf_s c i
    have hvr := visible_of_recent c.B J.eops (reqOf c i).s.toNat (by rw [inv.tot]; omega)
    omega
  · rw [List.drop_eq_nil_of_le hvis]; intro r hr; cases hr

/-- every acquisition call drains the notification FIFO, as `extract_epochs` does with its deques -/
def drains (c : Cfg) : List Ev → JState → Bool
  | [], _ => true
  | ev :: evs, J =>
    (match ev with
     | .acq _ vis _ => decide (J.pend.length ≤ vis)
     | .q _ => true) &&
    (match jstep c J ev with
     | .ok J' => drains c evs J'
     | .error _ => true)

theorem DInv_run (c : Cfg) (henc : EncInj c) (evs : List Ev) {J J' : JState} (inv : JInv c J) (d : DInv c J)
    (hdr : drains c evs J = true) (h : jrun c evs J = .ok J')
    (hside : SideOK c J'.q.added) : DInv c J' := by
  induction evs generalizing J with
  | nil => cases h; exact d
  | cons ev evs ih =>
    have hp := jrun_mono c (ev :: evs) inv.q.wf h
    obtain ⟨J1, hs, hr⟩ := jrun_cons h
    simp only [drains, hs, Bool.and_eq_true] at hdr
    have inv1 : JInv c J1 := JInv_step c henc ev inv hs (fun _ => SideOK_prefix hside hp)
    refine ih inv1 (DInv_step c ev inv d hs ?_) hdr.2 hr
    intro n vis cpl he
    subst he
    simpa using hdr.1

end Psi.E2E

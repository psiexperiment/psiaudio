import PsiModel.StagesExt2
import PsiProofs.Helper.C12_Run
/-! `rms_band` simulates `rms` (same block loop, other block function, other annotations) — EXT12. -/
namespace Psi.StagesExt2
open Psi.Stages Psi.StagesExt
variable {α β ρ χ μ τ κ ι : Type}

theorem concatArr_pd (l : List (PD α ρ χ μ)) (hl : l ≠ []) :
    concatArr (l.map Arr.pd)
      = (match catAll l with | .ok x => .ok (.pd x) | .error _ => .error .valueError) := by
  have h1 : (l.map (Arr.pd (α := α))).all (fun x => !x.isPd) = false := by
    cases l with
    | nil => exact absurd rfl hl
    | cons a l => rfl
  have h2 : (l.map Arr.pd).all Arr.isPd = true :=
    List.all_eq_true.mpr fun x hx => by obtain ⟨y, -, rfl⟩ := List.mem_map.mp hx; rfl
  have h3 : (l.map Arr.pd).filterMap Arr.pd? = l :=
    (List.filterMap_map ..).trans List.filterMap_some
  unfold concatArr
  rw [h1, h2, h3]
  cases catAll l <;> rfl

theorem renumber_append (a : Ann ρ χ μ) : ∀ (o os : List (PD β ρ χ μ)) (k : Nat),
    renumber a k (o ++ os) = renumber a k o ++ renumber a (k + (outData o).length) os := by
  intro o
  induction o with
  | nil => intro os k; simp [renumber, outData]
  | cons b o ih =>
    intro os k
    simp only [List.cons_append, renumber, ih, outData, List.map_cons, List.flatten_cons, List.length_append]
    simp [Nat.add_assoc]

theorem emits_renumber {bs : List (PD β ρ χ μ)} {x : List β} {u t : Int} {a0 : Ann ρ χ μ}
    (h : Emits bs x u t a0) (a : Ann ρ χ μ) (k : Nat) : Emits (renumber a k bs) x 1 (k : Int) a := by
  have key : ∀ (bs : List (PD β ρ χ μ)) (k : Nat), Emits (renumber a k bs) (outData bs) 1 (k : Int) a := by
    intro bs
    induction bs with
    | nil => intro k; simpa [renumber, outData] using Emits.nil _ _ _
    | cons b bs ih =>
      intro k
      refine Emits.cons _ (ih (k + b.data.length)) rfl rfl ?_ ?_
      · simp [PD.len]
      · simp [outData]
  rw [← h.data]
  exact key bs k

variable (band : List α → β) (divFs : ρ → Nat → ρ) (chDef : χ) (mdEmpty : μ) (n : Nat)

theorem band_step_sim (hn : 0 < n) (f : ρ) (rst : RmsSt α ρ χ μ) (bst : BandSt α ρ χ μ) (y : PD α ρ χ μ)
    (hd : bst.data = rst.data.map Arr.pd) (hs : bst.samples = rst.samples)
    (hf : bst.fs = some f ∨ (bst.fs = none ∧ y.ann.fs = f)) :
    match rmsStep band divFs n rst y with
    | .error _ => rmsBandStep band divFs chDef mdEmpty n bst (.pd y) = .error .valueError
    | .ok (bs, rst') => ∃ bst', rmsBandStep band divFs chDef mdEmpty n bst (.pd y)
          = .ok (renumber ⟨divFs f n, chDef, mdEmpty⟩ bst.s0 bs, bst')
        ∧ bst'.data = rst'.data.map Arr.pd ∧ bst'.samples = rst'.samples ∧ bst'.fs = some f
        ∧ bst'.s0 = bst.s0 + (outData bs).length := by
  have hn0 : n ≠ 0 := Nat.ne_of_gt hn
  have hfs : bandFs n bst (.pd y) = .ok f := by
    rcases hf with h | ⟨h, h'⟩
    · simp only [bandFs, h]
    · simp only [bandFs, h, h', hn0, if_false]
  unfold rmsStep rmsBandStep
  simp only [hfs, hn0, if_false, hd, hs, Arr.data, PD.len]
  by_cases hge : n ≤ rst.samples + y.data.length
  · simp only [hge, if_true]
    have e : rst.data.map Arr.pd ++ [Arr.pd y] = (rst.data ++ [y]).map Arr.pd :=
      (List.map_append (l₂ := [y])).symm
    rw [e, concatArr_pd _ (List.append_ne_nil_of_right_ne_nil _ (List.cons_ne_nil y []))]
    cases catAll (rst.data ++ [y]) with
    | error e => rfl
    | ok m => exact ⟨_, rfl, rfl, rfl, rfl, by rw [outData_single]⟩
  · simp only [hge, if_false]
    exact ⟨_, rfl, (List.map_append (l₂ := [y])).symm, rfl, rfl, rfl⟩

theorem band_sim (hn : 0 < n) (f : ρ) :
    ∀ (ys : List (PD α ρ χ μ)) (rst : RmsSt α ρ χ μ) (bst : BandSt α ρ χ μ),
    bst.data = rst.data.map Arr.pd → bst.samples = rst.samples → (bst.fs = some f ∨ bst.fs = none) →
    (∀ y ∈ ys, y.ann.fs = f) →
    match runStage (rmsStep band divFs n) rst ys with
    | .error _ => run (rmsBandStep band divFs chDef mdEmpty n) bst (ys.map Arr.pd) = .error .valueError
    | .ok (bs, _) => ∃ bst', run (rmsBandStep band divFs chDef mdEmpty n) bst (ys.map Arr.pd)
          = .ok (renumber ⟨divFs f n, chDef, mdEmpty⟩ bst.s0 bs, bst') := by
  intro ys
  induction ys with
  | nil => intro rst bst _ _ _ _; exact ⟨bst, rfl⟩
  | cons y ys ih =>
    intro rst bst hd hs hf hall
    have hstep := band_step_sim band divFs chDef mdEmpty n hn f rst bst y hd hs
      (hf.imp id (fun h => ⟨h, hall y List.mem_cons_self⟩))
    rw [runStage_eq_run, List.map_cons]
    cases h1 : rmsStep band divFs n rst y with
    | error e =>
      rw [h1] at hstep
      rw [run_cons_error h1]
      exact run_cons_error hstep _
    | ok p =>
      obtain ⟨o1, rst1⟩ := p
      rw [h1] at hstep
      obtain ⟨bst1, hb, hd1, hs1, hf1, hk1⟩ := hstep
      have hrec := ih rst1 bst1 hd1 hs1 (Or.inl hf1) (fun z hz => hall z (List.mem_cons_of_mem _ hz))
      rw [runStage_eq_run] at hrec
      rw [run_cons h1, run_cons hb]
      cases h2 : run (rmsStep band divFs n) rst1 ys with
      | error e => rw [h2] at hrec; rw [hrec]; rfl
      | ok q =>
        rw [h2] at hrec
        obtain ⟨bst2, hb2⟩ := hrec
        exact ⟨bst2, by rw [hb2, renumber_append, hk1]; rfl⟩

end Psi.StagesExt2

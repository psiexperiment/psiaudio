import PsiProofs.Helper.C05_Inv
/-!
Helper for C05: the two specifications.  With pairwise distinct keys a request is followed by itself
(`specDeliver`, `specPending`).  In the per-request form a dictionary key may be re-used once the
earlier request carrying it is gone, and the spec follows a key.

The extractor looks at a key `κ = (t0, key)` only through equality tests, so its behaviour under
one key is that of a tiny state machine whose state is the request currently being captured under
`κ` (`Option Request`).  One call first applies its removals, then feeds the chunk, then takes in
its requests (pipeline.py 768-833):

* `skipCount`: of the removals naming `κ`, one hits the capture pending under `κ` (if any), the
  others go to the per-call `skip` list and swallow the first requests of this call with key `κ`;
* `takenK`: the requests with key `κ` of this call that are not swallowed;
* `keptK`: the pending request, unless a removal of this call named `κ`.

`KeyOK`: a key re-appears only after the earlier request with that key was removed (in this call
or before) or delivered (before) — at most one request per key is taken in a call, and none while
the earlier one is still being captured, the point where the real code raises
`ValueError('Duplicate epochs not supported')`.
-/
namespace Psi.Extract

/-- `r` is live (pending, or becoming visible) at the first call of `ops`, `T` samples have been
acquired before it.  For each call: is `r`'s epoch delivered there?  Removal wins over data of the
same call; the epoch is delivered in the first call that brings its last sample. -/
def specDeliver {α} (r : Request) : Nat → List (Op α) → List Bool
  | _, [] => []
  | T, op :: ops =>
    if r.key ∈ op.rems then false :: ops.map (fun _ => false)
    else if r.s.toNat + r.len ≤ T + op.chunk.length then true :: ops.map (fun _ => false)
    else false :: specDeliver r (T + op.chunk.length) ops

def specPending {α} (r : Request) : Nat → List (Op α) → Bool
  | _, [] => true
  | T, op :: ops =>
    if r.key ∈ op.rems then false
    else if r.s.toNat + r.len ≤ T + op.chunk.length then false
    else specPending r (T + op.chunk.length) ops

def emit {α} (S : List α) (r : Request) (b : Bool) : List (Epoch α) := if b then [epochOf S r] else []

def doneAt (r : Request) (T : Nat) : Bool := decide (r.s.toNat + r.len ≤ T)

def addsK {α} (κ : Nat) (op : Op α) : List Request := op.reqs.filter (fun q => q.key == κ)

def skipCount {α} (κ : Nat) (live : Option Request) (op : Op α) : Nat :=
  op.rems.count κ - (if live.isSome then 1 else 0)

def takenK {α} (κ : Nat) (live : Option Request) (op : Op α) : List Request :=
  (addsK κ op).drop (skipCount κ live op)

def keptK {α} (κ : Nat) (live : Option Request) (op : Op α) : Option Request :=
  if κ ∈ op.rems then none else live

def KeyOK {α} (κ : Nat) (live : Option Request) (op : Op α) : Prop :=
  (takenK κ live op).length ≤ 1 ∧ (takenK κ live op ≠ [] → keptK κ live op = none)

/-- the machine's state after the call (`T` samples acquired before it) -/
def keyNext {α} (κ : Nat) (T : Nat) (live : Option Request) (op : Op α) : Option Request :=
  match takenK κ live op with
  | [] => (keptK κ live op).filter (fun r => !doneAt r (T + op.chunk.length))
  | r :: _ => if doneAt r (T + op.chunk.length) then none else some r

/-- the request whose epoch the call delivers under `κ` -/
def keyEmit {α} (κ : Nat) (T : Nat) (live : Option Request) (op : Op α) : Option Request :=
  match takenK κ live op with
  | [] => (keptK κ live op).filter (fun r => doneAt r (T + op.chunk.length))
  | r :: _ => if doneAt r (T + op.chunk.length) then some r else none

def openK {α} (κ : Nat) : Nat → Option Request → List (Op α) → Option Request
  | _, live, [] => live
  | T, live, op :: ops => openK κ (T + op.chunk.length) (keyNext κ T live op) ops

def openAfter {α} (κ : Nat) (hist : List (Op α)) : Option Request := openK κ 0 none hist

def specReqs {α} (κ : Nat) : Nat → Option Request → List (Op α) → List (Option Request)
  | _, _, [] => []
  | T, live, op :: ops => keyEmit κ T live op :: specReqs κ (T + op.chunk.length) (keyNext κ T live op) ops

structure OpValidSeq {α} (B L : Nat) (hist : List (Op α)) (op : Op α) : Prop where
  len : ∀ r ∈ op.reqs, r.len = L
  visible : ∀ r ∈ op.reqs, ((lookbackStart B hist : Nat) : Int) ≤ r.s
  reuse : ∀ κ, KeyOK κ (openAfter κ hist) op

def AllValidSeq {α} (B L : Nat) : List (Op α) → List (Op α) → Prop
  | _, [] => True
  | hist, op :: rest => OpValidSeq B L hist op ∧ AllValidSeq B L (hist ++ [op]) rest

theorem allValidSeq_append {α} (B L : Nat) (hist a b : List (Op α)) :
    AllValidSeq B L hist (a ++ b) ↔ AllValidSeq B L hist a ∧ AllValidSeq B L (hist ++ a) b := by
  induction a generalizing hist with
  | nil => simp [AllValidSeq]
  | cons op ops ih =>
    simp only [List.cons_append, AllValidSeq, ih, and_assoc]
    have : hist ++ [op] ++ ops = hist ++ op :: ops := by simp
    rw [this]

theorem openK_append {α} (κ T : Nat) (live : Option Request) (a b : List (Op α)) :
    openK κ T live (a ++ b) = openK κ (T + total a) (openK κ T live a) b := by
  induction a generalizing T live with
  | nil => simp [openK, total]
  | cons op ops ih =>
    simp only [List.cons_append, openK, ih]
    simp [total, Nat.add_assoc]

theorem openAfter_snoc {α} (κ : Nat) (hist : List (Op α)) (op : Op α) :
    openAfter κ (hist ++ [op]) = keyNext κ (total hist) (openAfter κ hist) op := by
  simp [openAfter, openK_append, openK]

theorem specReqs_append {α} (κ T : Nat) (live : Option Request) (a b : List (Op α)) :
    specReqs κ T live (a ++ b) = specReqs κ T live a ++ specReqs κ (T + total a) (openK κ T live a) b := by
  induction a generalizing T live with
  | nil => simp [specReqs, openK, total]
  | cons op ops ih =>
    simp only [List.cons_append, specReqs, openK, ih]
    simp [total, Nat.add_assoc]

theorem specReqs_snoc {α} (κ : Nat) (hist : List (Op α)) (op : Op α) :
    specReqs κ 0 none (hist ++ [op]) =
      specReqs κ 0 none hist ++ [keyEmit κ (total hist) (openAfter κ hist) op] := by
  simp [specReqs_append, specReqs, openAfter]

theorem specReqs_length {α} (κ T : Nat) (live : Option Request) (ops : List (Op α)) :
    (specReqs κ T live ops).length = ops.length := by
  induction ops generalizing T live with
  | nil => rfl
  | cons op ops ih => simp [specReqs, ih]

theorem takenK_sub {α} (κ : Nat) (live : Option Request) (op : Op α) :
    ∀ r ∈ takenK κ live op, r ∈ op.reqs ∧ r.key = κ := by
  intro r hr
  have := List.mem_filter.1 (List.mem_of_mem_drop hr)
  exact ⟨this.1, by simpa using this.2⟩

theorem key_origin {α} (κ T : Nat) (live : Option Request) (op : Op α) (r : Request)
    (h : keyEmit κ T live op = some r ∨ keyNext κ T live op = some r) :
    (live = some r ∧ κ ∉ op.rems ∧ takenK κ live op = []) ∨ r ∈ takenK κ live op := by
  unfold keyEmit keyNext at h
  cases ht : takenK κ live op with
  | nil =>
    simp only [ht] at h
    have hk : keptK κ live op = some r := by
      rcases h with h | h <;> exact (Option.filter_eq_some_iff.1 h).1
    unfold keptK at hk
    split at hk
    · cases hk
    · rename_i hrem; exact Or.inl ⟨hk, hrem, rfl⟩
  | cons q rest =>
    simp only [ht] at h
    have hq : q = r := by
      rcases h with h | h <;> split at h <;> first | exact Option.some.inj h | cases h
    exact Or.inr (hq ▸ List.mem_cons_self)

theorem keyEmit_done {α} (κ T : Nat) (live : Option Request) (op : Op α) (r : Request)
    (h : keyEmit κ T live op = some r) : r.s.toNat + r.len ≤ T + op.chunk.length := by
  unfold keyEmit at h
  split at h
  · exact of_decide_eq_true (Option.filter_eq_some_iff.1 h).2
  · split at h
    · rename_i hd
      exact Option.some.inj h ▸ of_decide_eq_true hd
    · cases h

theorem openK_mem {α} (κ : Nat) (T : Nat) (live : Option Request) (ops : List (Op α)) (r : Request)
    (h : openK κ T live ops = some r) : live = some r ∨ (r ∈ allReqs ops ∧ r.key = κ) := by
  induction ops generalizing T live with
  | nil => exact Or.inl h
  | cons op ops ih =>
    simp only [openK] at h
    rcases ih _ _ h with h1 | h1
    · rcases key_origin κ T live op r (Or.inr h1) with h2 | h2
      · exact Or.inl h2.1
      · obtain ⟨h3, h4⟩ := takenK_sub κ live op r h2
        exact Or.inr ⟨by simp only [allReqs, List.flatMap_cons]; exact List.mem_append_left _ h3, h4⟩
    · exact Or.inr ⟨by simp only [allReqs, List.flatMap_cons] at h1 ⊢; exact List.mem_append_right _ h1.1, h1.2⟩

theorem openAfter_mem {α} (κ : Nat) (hist : List (Op α)) (r : Request)
    (h : openAfter κ hist = some r) : r ∈ allReqs hist ∧ r.key = κ := by
  rcases openK_mem κ 0 none hist r h with h1 | h1
  · cases h1
  · exact h1

end Psi.Extract

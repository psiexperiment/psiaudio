import PsiProofs.Helper.C07_Real
/-! Lemmas for C07: `Res` plumbing, the dB algebra over ℝ, and the mean scale factor. -/
namespace Psi.Db

@[simp] theorem Res.map_val {α β} (f : α → β) (a : α) : (Res.val a).map f = .val (f a) := rfl
@[simp] theorem Res.map_nan {α β} (f : α → β) : (Res.nan : Res α).map f = .nan := rfl
@[simp] theorem Res.map_calErr {α β} (f : α → β) : (Res.calErr : Res α).map f = .calErr := rfl
@[simp] theorem Res.map_valErr {α β} (f : α → β) : (Res.valErr : Res α).map f = .valErr := rfl

theorem Res.map_eq_val {α β} {f : α → β} {r : Res α} {b : β} (h : r.map f = .val b) :
    ∃ a, r = .val a ∧ f a = b := by
  cases r <;> simp [Res.map] at h
  exact ⟨_, rfl, h⟩

theorem Res.map_eq_nan {α β} {f : α → β} {r : Res α} : r.map f = .nan ↔ r = .nan := by
  cases r <;> simp [Res.map]

theorem Res.map_eq_calErr {α β} {f : α → β} {r : Res α} : r.map f = .calErr ↔ r = .calErr := by
  cases r <;> simp [Res.map]

theorem Res.map_eq_valErr {α β} {f : α → β} {r : Res α} : r.map f = .valErr ↔ r = .valErr := by
  cases r <;> simp [Res.map]

theorem Res.map_map {α β γ} (g : β → γ) (f : α → β) (r : Res α) : (r.map f).map g = r.map fun a => g (f a) := by
  cases r <;> rfl

theorem db1_mul {x y : ℝ} (hx : 0 < x) (hy : 0 < y) : db1 (x * y) = db1 x + db1 y := by
  rw [db1_real, db1_real, db1_real, Real.logb_mul hx.ne' hy.ne']; ring

theorem db1_div {x y : ℝ} (hx : 0 < x) (hy : 0 < y) : db1 (x / y) = db1 x - db1 y := by
  rw [db1_real, db1_real, db1_real, Real.logb_div hx.ne' hy.ne']; ring

theorem db1_exp10 (d : ℝ) : db1 ((10 : ℝ) ^ (d / 20)) = d := by
  rw [db1_real, log10_exp10]; ring

theorem exp10_db1 {x : ℝ} (hx : 0 < x) : (10 : ℝ) ^ (db1 x / 20) = x := by
  rw [db1_real, mul_div_cancel_left₀ _ (by norm_num : (20 : ℝ) ≠ 0), exp10_log10 hx]

theorem db1_one : db1 (1 : ℝ) = 0 := by rw [db1_real]; simp

theorem db_eq_sub {x r : ℝ} (hx : 0 < x) (hr : 0 < r) : db x r = db1 x - db1 r := by
  rw [← db1_div hx hr, db_real, db1_real]

theorem db1_dbi (d : ℝ) {r : ℝ} (hr : 0 < r) : db1 (dbi d r) = d + db1 r := by
  rw [dbi_real, db1_mul (exp10_pos _) hr, db1_exp10]

theorem dbi_db1 {x : ℝ} (hx : 0 < x) : dbi (db1 x) 1 = x := by
  rw [dbi_real, exp10_db1 hx, mul_one]

theorem exp10_one : (10 : ℝ) ^ ((20 : ℝ) / 20) = 10 := by
  rw [div_self (by norm_num : (20 : ℝ) ≠ 0), Real.rpow_one]

theorem pRef_pos : (0 : ℝ) < pRef := by rw [pRef_real]; norm_num

theorem sfOf_pos (S L A : ℝ) : 0 < sfOf S L A := by rw [sfOf_real]; exact exp10_pos _

/-- `get_sf` sees sensitivity, level and attenuation only through `L - S + A`. -/
theorem sfOf_offset {S L A S' L' A' d : ℝ} (h : L' - S' + A' = L - S + A + d) :
    sfOf S' L' A' = (10 : ℝ) ^ (d / 20) * sfOf S L A := by
  rw [sfOf_real, sfOf_real, ← Real.rpow_add ten_pos, h]; congr 1; ring

theorem db1_sfOf (S L A : ℝ) : db1 (sfOf S L A) + S = L + A := by
  rw [sfOf_real, db1_exp10]; ring

theorem sfOf_db1 (S v : ℝ) (hv : 0 < v) : sfOf S (db1 v + S) 0 = v := by
  rw [sfOf_real, add_sub_cancel_right, add_zero, exp10_db1 hv]

theorem getSf_shift (c : Cal ℝ) (f : ℝ) {L A L' A' d : ℝ} (h : L' + A' = L + A + d) :
    getSf c f L' A' = (getSf c f L A).map ((10 : ℝ) ^ (d / 20) * ·) := by
  unfold getSf
  cases getSens c f with
  | val S => exact congrArg Res.val (sfOf_offset (by linear_combination h))
  | _ => rfl

theorem getSf_add_level (c : Cal ℝ) (f L A d x : ℝ) (h : getSf c f L A = .val x) :
    getSf c f (L + d) A = .val ((10 : ℝ) ^ (d / 20) * x) := by
  rw [getSf_shift c f (add_right_comm L d A), h, Res.map_val]

/-- level → volts → level, for every calibration class. -/
theorem getDb_getSf (c : Cal ℝ) (f L A v : ℝ) (h : getSf c f L A = .val v) :
    getDb c f v = .val (L + A) := by
  obtain ⟨S, hS, rfl⟩ := Res.map_eq_val h
  rw [getDb, hS, Res.map_val, db1_sfOf]

theorem collect_map {α β : Type} (f : α → β) (l : List (Res α)) :
    collect (l.map (Res.map f)) = (collect l).map (List.map f) := by
  induction l with
  | nil => rfl
  | cons r t ih =>
    show collect (r.map f :: t.map (Res.map f)) = (collect (r :: t)).map (List.map f)
    unfold collect
    rw [ih]
    cases r <;> cases collect t <;> rfl

theorem collect_val_all {l : List (Res ℝ)} {vs : List ℝ} (h : collect l = .val vs) : ∀ r ∈ l, ∃ v, r = .val v := by
  induction l generalizing vs with
  | nil => intro r hr; cases hr
  | cons r t ih =>
    intro r' hr'
    unfold collect at h
    cases r <;> cases hc : collect t <;> rw [hc] at h <;> try cases h
    rcases List.mem_cons.mp hr' with e | e
    · exact ⟨_, e⟩
    · exact ih hc r' e

theorem sumList_eq_sum (l : List ℝ) : sumList l = l.sum := by
  induction l with
  | nil => simp [sumList]
  | cons a t ih => simp [sumList, ih]

theorem sumList_scale (g : ℝ) (l : List ℝ) : sumList (l.map (g * ·)) = g * sumList l := by
  rw [sumList_eq_sum, sumList_eq_sum, List.sum_map_mul_left, List.map_id']

/-- What `get_mean_sf` makes of the pointwise scale factors of a frequency-dependent calibration: their mean;
a NaN among them, or an empty range, is a `ValueError`. -/
def meanRes {α : Type} [DbField α] : List (Res α) → Res α
  | [] => .valErr
  | r :: rs =>
    match collect (r :: rs) with
    | .val l => .val (sumList l / nat l.length)
    | .nan => .valErr
    | .calErr => .calErr
    | .valErr => .valErr

theorem getMeanSf_of_ne_flat {c : Cal ℝ} (hc : ∀ s g, c ≠ .flat s g) (flb : ℝ) (freqs : List ℝ) (L A : ℝ) :
    getMeanSf c flb freqs L A = meanRes (freqs.map (getSf c · L A)) := by
  cases c with
  | flat s g => exact absurd rfl (hc s g)
  | interp t g | point t g => cases freqs <;> rfl

theorem meanRes_scale (g : ℝ) (rs : List (Res ℝ)) :
    meanRes (rs.map (Res.map (g * ·))) = (meanRes rs).map (g * ·) := by
  cases rs with
  | nil => rfl
  | cons r rs =>
    rw [meanRes, List.map_cons, meanRes, ← List.map_cons, collect_map]
    cases collect (r :: rs) with
    | val l => exact congrArg Res.val (by rw [sumList_scale, List.length_map, mul_div_assoc])
    | _ => rfl

theorem meanRes_val {rs : List (Res ℝ)} {x : ℝ} (h : meanRes rs = .val x) : ∀ r ∈ rs, ∃ v, r = .val v := by
  cases rs with
  | nil => cases h
  | cons r rs =>
    rw [meanRes] at h
    cases hc : collect (r :: rs) with
    | val l => exact collect_val_all hc
    | _ => rw [hc] at h; cases h

theorem getMeanSf_scale (c : Cal ℝ) (flb : ℝ) (freqs : List ℝ) {L A L' A' g : ℝ}
    (h : ∀ f, getSf c f L' A' = (getSf c f L A).map (g * ·)) :
    getMeanSf c flb freqs L' A' = (getMeanSf c flb freqs L A).map (g * ·) := by
  by_cases hc : ∀ s g0, c ≠ .flat s g0
  · rw [getMeanSf_of_ne_flat hc, getMeanSf_of_ne_flat hc, ← meanRes_scale, List.map_map]
    exact congrArg meanRes (List.map_congr_left fun f _ => h f)
  · simp only [not_forall, not_not] at hc
    obtain ⟨s, g0, rfl⟩ := hc
    exact h flb

end Psi.Db

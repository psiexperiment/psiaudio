import PsiModel.Cache
/-! Lemmas about generators (C10 b) and the world of objects (C10 c). -/
namespace Psi.Cache

section gen
variable {P S O : Type}

theorem Gen.params_runAll {g : Gen P S O} (hl : g.Lawful) (s : S) (ns : List Nat) :
    g.params (g.runAll s ns) = g.params s := by
  induction ns generalizing s with
  | nil => rfl
  | cons n ns ih => simp only [Gen.runAll]; rw [ih, hl.params_next]

theorem Gen.runAll_append (g : Gen P S O) (s : S) (a b : List Nat) :
    g.runAll s (a ++ b) = g.runAll (g.runAll s a) b := by
  induction a generalizing s with
  | nil => rfl
  | cons n a ih => simp only [List.cons_append, Gen.runAll]; exact ih _

theorem Gen.reset_runAll {g : Gen P S O} (hl : g.Lawful) (s : S) (ns : List Nat) :
    g.reset (g.runAll s ns) = g.init (g.params s) := by
  rw [hl.reset_eq, Gen.params_runAll hl]

end gen

section kern
variable {P R F O : Type}

theorem Kern.params_next (k : Kern P R F O) (s : GState P R F) (n : Nat) :
    (k.next s n).1.params = s.params := rfl

theorem Kern.params_reset (k : Kern P R F O) (s : GState P R F) :
    (k.reset s).params = s.params := by
  unfold Kern.reset
  split <;> rfl

theorem Kern.reset_eq_init (k : Kern P R F O) (s : GState P R F) : k.reset s = k.init s.params := by
  unfold Kern.init Kern.reset
  rfl

theorem Kern.lawful (k : Kern P R F O) : k.gen.Lawful :=
  ⟨fun s => k.reset_eq_init s, fun s n => k.params_next s n,
   fun p => by show (k.reset _).params = p; rw [Kern.params_reset]⟩

end kern

section tkern
variable {P F O PI S : Type}

theorem TKern.lawful (t : TKern P F O) {g : Gen PI S O} (hl : g.Lawful) : (t.gen g).Lawful := by
  refine ⟨?_, ?_, ?_⟩
  · intro s
    show t.reset g s = t.init g (s.params, g.params s.input)
    unfold TKern.reset TKern.init
    simp only [hl.reset_eq]
  · intro s n
    show ((t.next g s n).1.params, g.params (t.next g s n).1.input) = (s.params, g.params s.input)
    unfold TKern.next
    simp only [hl.params_next]
  · intro p
    show ((t.init g p).params, g.params (t.init g p).input) = p
    unfold TKern.init
    simp only [hl.params_init]

end tkern

theorem freeGen_lawful : freeGen.Lawful := ⟨fun _ => rfl, fun _ _ => rfl, fun _ => rfl⟩

theorem freeGen_runAll (l : Lin) (ns : List Nat) :
    freeGen.runAll l ns = { spec := l.spec, chunks := l.chunks ++ ns } := by
  induction ns generalizing l with
  | nil => simp [Gen.runAll]
  | cons n ns ih =>
    simp only [Gen.runAll]
    rw [ih]
    simp [freeGen]

/-- Stated about a variable `o'` so that `split` works on one occurrence of `wstep`. -/
theorem wstep_objs (w : World) (op : WOp) {o' : List Obj} (h : (wstep w op).1.objs = o') :
    o' = w.objs ∨ (∃ x, o' = w.objs ++ [x]) ∨ ∃ t x, op.target = some t ∧ o' = w.objs.set t x := by
  cases op <;> simp only [wstep] at h <;> repeat' split at h
  all_goals subst h; with_reducible first
    | exact .inl rfl
    | exact .inr (.inl ⟨_, rfl⟩)
    | exact .inr (.inr ⟨_, _, rfl, rfl⟩)

theorem wstep_length_le (w : World) (op : WOp) : w.objs.length ≤ (wstep w op).1.objs.length := by
  rcases wstep_objs w op rfl with h | ⟨x, h⟩ | ⟨t, x, _, h⟩ <;> rw [h]
  · exact Nat.le_refl _
  · rw [List.length_append]; exact Nat.le_add_right _ _
  · rw [List.length_set]; exact Nat.le_refl _

theorem wstep_frame (w : World) (op : WOp) (j : Nat) (hj : j < w.objs.length)
    (ht : op.target ≠ some j) : (wstep w op).1.objs[j]? = w.objs[j]? := by
  rcases wstep_objs w op rfl with h | ⟨x, h⟩ | ⟨t, x, ht', h⟩ <;> rw [h]
  · exact List.getElem?_append_left hj
  · exact List.getElem?_set_ne (fun e => ht (by rw [ht', e]))

theorem wrun_length_le (ops : List WOp) (w : World) : w.objs.length ≤ (wrun ops w).objs.length := by
  induction ops generalizing w with
  | nil => exact Nat.le_refl _
  | cons op ops ih =>
    unfold wrun; rw [List.foldl_cons]
    exact Nat.le_trans (wstep_length_le w op) (ih _)

theorem wrun_frame (ops : List WOp) (w : World) (j : Nat) (hj : j < w.objs.length)
    (ht : ∀ op ∈ ops, op.target ≠ some j) : (wrun ops w).objs[j]? = w.objs[j]? := by
  induction ops generalizing w with
  | nil => rfl
  | cons op ops ih =>
    unfold wrun; rw [List.foldl_cons]
    have h1 := wstep_frame w op j hj (ht op List.mem_cons_self)
    have h2 := ih (wstep w op).1 (Nat.lt_of_lt_of_le hj (wstep_length_le w op))
      (fun o ho => ht o (List.mem_cons_of_mem _ ho))
    exact h2.trans h1

end Psi.Cache

import PsiModel.Epochs
/-! Declarative characterisation of `maximalRuns` (so that the spec of `epochs` is not taken on faith). -/
namespace Psi.Epochs

def IsMaximalRun (x : List Bool) (s e : Nat) : Prop :=
  s < e ∧ e ≤ x.length ∧ (∀ i, s ≤ i → i < e → x[i]? = some true) ∧
  (s = 0 ∨ x[s - 1]? = some false) ∧ (e = x.length ∨ x[e]? = some false)

/-- the sample before the start of `h` is low (or missing), so it is not a sample of the other run -/
theorem IsMaximalRun.start_le {x : List Bool} {s e s' e' : Nat} (h : IsMaximalRun x s e)
    (h' : IsMaximalRun x s' e') (hlt : s < e') : s ≤ s' := by
  apply Nat.le_of_not_lt
  intro hs
  have := h'.2.2.1 (s - 1) (by omega) (by omega)
  rcases h.2.2.2.1 with h0 | h0
  · omega
  · rw [this] at h0; cases h0

theorem IsMaximalRun.end_le {x : List Bool} {s e s' e' : Nat} (h : IsMaximalRun x s e)
    (h' : IsMaximalRun x s' e') (hlt : s' < e) : e' ≤ e := by
  apply Nat.le_of_not_lt
  intro he
  have := h'.2.2.1 e (by omega) he
  rcases h.2.2.2.2 with h0 | h0
  · have := h'.2.1; omega
  · rw [this] at h0; cases h0

def closed (cur : Option Nat) (pos : Nat) : List (Nat × Nat) := cur.toList.map fun s => (s, pos)

theorem mem_closed {cur : Option Nat} {pos : Nat} {p : Nat × Nat} :
    p ∈ closed cur pos ↔ cur = some p.1 ∧ p.2 = pos := by
  obtain ⟨s, e⟩ := p
  cases cur <;> simp [closed, eq_comm]

theorem runsAux_nil (pos : Nat) (cur : Option Nat) : runsAux pos cur [] = closed cur pos := by
  cases cur <;> rfl

theorem runsAux_false (pos : Nat) (cur : Option Nat) (xs : List Bool) :
    runsAux pos cur (false :: xs) = closed cur pos ++ runsAux (pos + 1) none xs := by
  cases cur <;> rfl

theorem runsAux_true (pos : Nat) (cur : Option Nat) (xs : List Bool) :
    runsAux pos cur (true :: xs) = runsAux (pos + 1) (some (cur.getD pos)) xs := by
  cases cur <;> rfl

def ScanInv (x : List Bool) (pos : Nat) : Option Nat → Prop
  | none => pos = 0 ∨ x[pos - 1]? = some false
  | some s => s < pos ∧ (∀ i, s ≤ i → i < pos → x[i]? = some true) ∧ (s = 0 ∨ x[s - 1]? = some false)

theorem ScanInv.closed {x : List Bool} {pos : Nat} {cur : Option Nat} (hinv : ScanInv x pos cur)
    (hle : pos ≤ x.length) (hend : pos = x.length ∨ x[pos]? = some false) :
    ∀ p ∈ closed cur pos, IsMaximalRun x p.1 p.2 := by
  intro p hp
  obtain ⟨rfl, rfl⟩ := mem_closed.mp hp
  obtain ⟨h1, h2, h3⟩ := hinv
  exact ⟨h1, hle, h2, h3, hend⟩

theorem ScanInv.high {x : List Bool} {pos : Nat} {cur : Option Nat} (hinv : ScanInv x pos cur)
    (hb : x[pos]? = some true) : ScanInv x (pos + 1) (some (cur.getD pos)) := by
  cases cur with
  | none =>
    refine ⟨Nat.lt_succ_self pos, fun i (h1 : pos ≤ i) h2 => ?_, hinv⟩
    rw [show i = pos by omega]; exact hb
  | some s =>
    obtain ⟨h1, h2, h3⟩ := hinv
    refine ⟨Nat.lt_succ_of_lt h1, fun i hi1 hi2 => ?_, h3⟩
    by_cases hip : i = pos
    · rw [hip]; exact hb
    · exact h2 i hi1 (by omega)

theorem runsAux_sound (x : List Bool) : ∀ (n pos : Nat) (cur : Option Nat),
    pos + n = x.length → ScanInv x pos cur →
    ∀ p ∈ runsAux pos cur (x.drop pos), IsMaximalRun x p.1 p.2 := by
  intro n
  induction n with
  | zero =>
    intro pos cur (hlen : pos = x.length) hinv
    rw [List.drop_eq_nil_of_le (Nat.le_of_eq hlen.symm), runsAux_nil]
    exact hinv.closed (Nat.le_of_eq hlen) (Or.inl hlen)
  | succ n ih =>
    intro pos cur hlen hinv p hp
    have hlt : pos < x.length := by omega
    have hb : x[pos]? = some x[pos] := List.getElem?_eq_getElem hlt
    rw [List.drop_eq_getElem_cons hlt] at hp
    cases hv : x[pos] <;> rw [hv] at hp hb
    · rw [runsAux_false, List.mem_append] at hp
      rcases hp with hp | hp
      · exact hinv.closed (Nat.le_of_lt hlt) (Or.inr hb) p hp
      · exact ih (pos + 1) none (by omega) (Or.inr hb) p hp
    · rw [runsAux_true] at hp
      exact ih (pos + 1) _ (by omega) (hinv.high hb) p hp

theorem runsAux_lower : ∀ (xs : List Bool) (pos : Nat) (cur : Option Nat),
    ∀ p ∈ runsAux pos cur xs, cur = some p.1 ∨ pos ≤ p.1 := by
  intro xs
  induction xs with
  | nil => intro pos cur p hp; rw [runsAux_nil] at hp; exact Or.inl (mem_closed.mp hp).1
  | cons b xs ih =>
    intro pos cur p hp
    cases b with
    | false =>
      rw [runsAux_false, List.mem_append] at hp
      rcases hp with hp | hp
      · exact Or.inl (mem_closed.mp hp).1
      · rcases ih _ _ p hp with h | h
        · cases h
        · exact Or.inr (by omega)
    | true =>
      rw [runsAux_true] at hp
      rcases ih _ _ p hp with h | h
      · cases cur with
        | none => exact Or.inr (Nat.le_of_eq (Option.some.inj h))
        | some s => exact Or.inl h
      · exact Or.inr (by omega)

theorem runsAux_sorted : ∀ (xs : List Bool) (pos : Nat) (cur : Option Nat),
    (runsAux pos cur xs).Pairwise (fun p q => p.2 < q.1) := by
  intro xs
  induction xs with
  | nil => intro pos cur; rw [runsAux_nil]; cases cur <;> simp [closed]
  | cons b xs ih =>
    intro pos cur
    cases b with
    | false =>
      rw [runsAux_false]
      refine List.pairwise_append.mpr ⟨by cases cur <;> simp [closed], ih _ _, fun p hp q hq => ?_⟩
      rw [(mem_closed.mp hp).2]
      rcases runsAux_lower xs _ _ q hq with h | h
      · cases h
      · exact h
    | true => rw [runsAux_true]; exact ih _ _

theorem runsAux_complete : ∀ (xs : List Bool) (pos : Nat) (cur : Option Nat),
    (∀ s, cur = some s → s ≤ pos) →
    (∀ s, cur = some s → ∃ p ∈ runsAux pos cur xs, p.1 = s ∧ pos ≤ p.2) ∧
    (∀ j, xs[j]? = some true → ∃ p ∈ runsAux pos cur xs, p.1 ≤ pos + j ∧ pos + j < p.2) := by
  intro xs
  induction xs with
  | nil =>
    intro pos cur _
    rw [runsAux_nil]
    exact ⟨fun s hs => ⟨(s, pos), mem_closed.mpr ⟨hs, rfl⟩, rfl, Nat.le_refl _⟩, fun j hj => by cases hj⟩
  | cons b xs ih =>
    intro pos cur hcur
    cases b with
    | false =>
      rw [runsAux_false]
      refine ⟨fun s hs => ⟨(s, pos), List.mem_append_left _ (mem_closed.mpr ⟨hs, rfl⟩), rfl,
        Nat.le_refl _⟩, fun j hj => ?_⟩
      cases j with
      | zero => cases hj
      | succ j =>
        obtain ⟨p, hp, h1, h2⟩ := (ih (pos + 1) none (fun _ h => by cases h)).2 j hj
        exact ⟨p, List.mem_append_right _ hp, by omega, by omega⟩
    | true =>
      rw [runsAux_true]
      have hs' : cur.getD pos ≤ pos := by
        cases cur with
        | none => exact Nat.le_refl _
        | some s => exact hcur s rfl
      obtain ⟨ih1, ih2⟩ := ih (pos + 1) (some (cur.getD pos))
        (fun s h => by cases h; exact Nat.le_succ_of_le hs')
      obtain ⟨p0, hp0, h01, h02⟩ := ih1 _ rfl
      refine ⟨fun s hs => ⟨p0, hp0, by rw [h01, hs]; rfl, by omega⟩, fun j hj => ?_⟩
      cases j with
      | zero => exact ⟨p0, hp0, by omega, by omega⟩
      | succ j =>
        obtain ⟨p, hp, h1, h2⟩ := ih2 j hj
        exact ⟨p, hp, by omega, by omega⟩

end Psi.Epochs

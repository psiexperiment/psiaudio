import PsiModel.Chunk
/-! Generic chunk algebra: additivity implies chunk invariance; closure under the combinators. -/
namespace Psi.Chunk

structure Additive {σ α : Type} (g : Gen σ α) : Prop where
  len : ∀ s n, (g.next s n).1.length = n
  add : ∀ s m n, (g.next s (m + n)).1 = (g.next s m).1 ++ (g.next (g.next s m).2 n).1
  addState : ∀ s m n, (g.next s (m + n)).2 = (g.next (g.next s m).2 n).2

theorem Additive.chunkInvariant {σ α : Type} {g : Gen σ α} (h : Additive g) (s : σ) :
    ChunkInvariant g s := by
  intro ns
  induction ns generalizing s with
  | nil =>
    have := h.len s 0
    simp only [drawAll, List.sum_nil]
    exact (List.eq_nil_of_length_eq_zero this).symm
  | cons n ns ih =>
    simp only [drawAll, List.sum_cons]
    rw [ih, h.add]

theorem Additive.stateAfter_eq {σ α : Type} {g : Gen σ α} (h : Additive g)
    (hz : ∀ s, (g.next s 0).2 = s) (s : σ) (ns : List Nat) :
    stateAfter g s ns = (g.next s ns.sum).2 := by
  induction ns generalizing s with
  | nil => simp [stateAfter, hz]
  | cons n ns ih => simp only [stateAfter, List.sum_cons]; rw [ih, h.addState]

theorem slice_length {α : Type} (f : Nat → α) (off n : Nat) : (slice f off n).length = n := by
  simp [slice]

theorem slice_add {α : Type} (f : Nat → α) (off m n : Nat) :
    slice f off (m + n) = slice f off m ++ slice f (off + m) n := by
  simp only [slice, List.range_add, List.map_append, List.map_map]
  congr 1
  apply List.map_congr_left
  intro i _
  simp [Nat.add_assoc]

theorem slice_getElem? {α : Type} (f : Nat → α) (off n i : Nat) :
    (slice f off n)[i]? = if i < n then some (f (off + i)) else none := by
  simp only [slice, List.getElem?_map]
  split <;> simp_all

theorem eq_slice {α : Type} {l : List α} {f : Nat → α} {off n : Nat} (hlen : l.length = n)
    (h : ∀ i, i < n → l[i]? = some (f (off + i))) : l = slice f off n := by
  apply List.ext_getElem?
  intro i
  rw [slice_getElem?]
  by_cases hi : i < n
  · rw [if_pos hi, h i hi]
  · rw [if_neg hi, List.getElem?_eq_none (by omega)]

theorem pointwise_additive {α : Type} (f : Nat → α) : Additive (pointwise f) where
  len s n := by simp [pointwise, slice_length]
  add s m n := by simp [pointwise, slice_add]
  addState s m n := by simp [pointwise, Nat.add_assoc]

theorem drawN_length {τ α : Type} (draw : τ → α × τ) (t : τ) (n : Nat) :
    (drawN draw t n).1.length = n := by
  induction n generalizing t with
  | zero => simp [drawN]
  | succ n ih => simp [drawN, ih]

theorem drawN_add {τ α : Type} (draw : τ → α × τ) (t : τ) (m n : Nat) :
    drawN draw t (m + n) =
      ((drawN draw t m).1 ++ (drawN draw (drawN draw t m).2 n).1, (drawN draw (drawN draw t m).2 n).2) := by
  induction m generalizing t with
  | zero => simp [drawN]
  | succ m ih =>
    have : m + 1 + n = (m + n) + 1 := by omega
    rw [this]
    simp only [drawN, ih, List.cons_append]

theorem stream_additive {τ α : Type} (draw : τ → α × τ) : Additive (stream draw) where
  len s n := drawN_length draw s n
  add s m n := by simp [stream, drawN_add]
  addState s m n := by simp [stream, drawN_add]

theorem mapG_additive {σ α β : Type} (f : α → β) {g : Gen σ α} (h : Additive g) : Additive (mapG f g) where
  len s n := by simp [mapG, h.len]
  add s m n := by simp [mapG, h.add]
  addState s m n := by simp [mapG, h.addState]

theorem runMealy_length {τ α β : Type} (step : τ → α → β × τ) (t : τ) (l : List α) :
    (runMealy step t l).1.length = l.length := by
  induction l generalizing t with
  | nil => simp [runMealy]
  | cons x xs ih => simp [runMealy, ih]

theorem runMealy_append {τ α β : Type} (step : τ → α → β × τ) (t : τ) (l₁ l₂ : List α) :
    runMealy step t (l₁ ++ l₂) =
      ((runMealy step t l₁).1 ++ (runMealy step (runMealy step t l₁).2 l₂).1,
        (runMealy step (runMealy step t l₁).2 l₂).2) := by
  induction l₁ generalizing t with
  | nil => simp [runMealy]
  | cons x xs ih => simp only [List.cons_append, runMealy, ih]

theorem mealy_additive {σ τ α β : Type} (step : τ → α → β × τ) {g : Gen σ α} (h : Additive g) :
    Additive (mealy step g) where
  len s n := by simp [mealy, runMealy_length, h.len]
  add s m n := by simp [mealy, h.add, h.addState, runMealy_append]
  addState s m n := by simp [mealy, h.add, h.addState, runMealy_append]

theorem applyAt_length {α β : Type} (h : Nat → α → β) (off : Nat) (l : List α) :
    (applyAt h off l).length = l.length := by
  induction l generalizing off with
  | nil => simp [applyAt]
  | cons x xs ih => simp [applyAt, ih]

theorem applyAt_append {α β : Type} (h : Nat → α → β) (off : Nat) (l₁ l₂ : List α) :
    applyAt h off (l₁ ++ l₂) = applyAt h off l₁ ++ applyAt h (off + l₁.length) l₂ := by
  induction l₁ generalizing off with
  | nil => simp [applyAt]
  | cons x xs ih =>
    simp only [List.cons_append, applyAt, ih, List.length_cons]
    congr 3
    omega

theorem applyAt_getElem? {α β : Type} (h : Nat → α → β) (off : Nat) (l : List α) (i : Nat) :
    (applyAt h off l)[i]? = (l[i]?).map (h (off + i)) := by
  induction l generalizing off i with
  | nil => simp [applyAt]
  | cons x xs ih =>
    cases i with
    | zero => simp [applyAt]
    | succ i =>
      simp only [applyAt, List.getElem?_cons_succ, ih]
      congr 2
      omega

theorem transformAt_additive {σ α β : Type} (f : Nat → α → β) {g : Gen σ α} (h : Additive g) :
    Additive (transformAt f g) where
  len s n := by simp [transformAt, applyAt_length, h.len]
  add s m n := by simp [transformAt, h.add, h.addState, applyAt_append]
  addState s m n := by simp [transformAt, h.add, h.addState, h.len, Nat.add_assoc]

theorem zipWith_slice_eq_applyAt {α β γ : Type} (mul : α → β → γ) (f : Nat → α) (off : Nat) (l : List β)
    {n : Nat} (hn : l.length = n) :
    List.zipWith mul (slice f off n) l = applyAt (fun k x => mul (f k) x) off l := by
  subst hn
  induction l generalizing off with
  | nil => rfl
  | cons x xs ih =>
    rw [List.length_cons, Nat.add_comm, slice_add]
    exact congrArg _ (ih (off + 1))

end Psi.Chunk

import PsiModel.Buffer
/-!
Every operation of the buffer model commutes with a cell-wise map `f`.  With `α` a column of
per-channel values and `f` the projection on one channel: a multichannel buffer behaves, channel
by channel, like a one-channel buffer.
-/
namespace Psi.Buffer

variable {α β : Type} (f : α → β)

@[simp] theorem State.map_cap (s : State α) : (s.map f).cap = s.cap := rfl
@[simp] theorem State.map_samples (s : State α) : (s.map f).samples = s.samples := rfl
@[simp] theorem State.map_ilb (s : State α) : (s.map f).ilb = s.ilb := rfl
@[simp] theorem State.map_buf (s : State α) : (s.map f).buf = s.buf.map f := rfl
@[simp] theorem State.map_fillv (s : State α) : (s.map f).fillv = f s.fillv := rfl
@[simp] theorem State.map_nanv (s : State α) : (s.map f).nanv = f s.nanv := rfl

theorem map_init (cap : Nat) (a n : α) : (init cap a n).map f = init cap (f a) (f n) := by
  simp [init, State.map]

theorem map_pySlice (l : List α) (a b : Int) : (pySlice l a b).map f = pySlice (l.map f) a b := by
  simp [pySlice, List.map_drop, List.map_take]

theorem map_rangeSamples (s : State α) (lb ub : Int) :
    (rangeSamples s lb ub).map (List.map f) = rangeSamples (s.map f) lb ub := by
  simp only [rangeSamples, toIndex, State.map_cap, State.map_samples, State.map_ilb, State.map_buf]
  by_cases c1 : lb - ↑s.samples + ↑s.cap < (s.ilb : Int)
  · simp [c1, Except.map]
  · by_cases c2 : ub - ↑s.samples + ↑s.cap > (s.cap : Int)
    · simp [c1, c2, Except.map]
    · simp [c1, c2, Except.map, map_pySlice]

theorem map_rangeFilled (s : State α) (a b : Int) (fill : α) :
    (rangeFilled s a b fill).map (List.map f) = rangeFilled (s.map f) a b (f fill) := by
  simp only [rangeFilled, samplesLb, samplesUb, State.map_cap, State.map_samples, State.map_ilb]
  rw [← map_rangeSamples]
  cases rangeSamples s _ _ <;> simp [Except.map]

theorem map_latest (s : State α) (a b : Int) (fill : Option α) :
    (latest s a b fill).map (List.map f) = latest (s.map f) a b (fill.map f) := by
  cases fill with
  | none => exact map_rangeSamples f s _ _
  | some x => exact map_rangeFilled f s _ _ x

theorem map_append (s : State α) (xs : List α) :
    (append s xs).map f = append (s.map f) (xs.map f) := by
  simp only [append, List.length_map, State.map_cap]
  split <;> simp [State.map, List.map_drop]

theorem map_invalidateIdx (s : State α) (i : Int) :
    (invalidateIdx s i).map f = invalidateIdx (s.map f) i := by
  unfold invalidateIdx
  by_cases h : i ≤ (s.ilb : Int)
  · simp [h, State.map]
  · simp [h, State.map, List.map_take]

theorem map_invalidateSamples (s : State α) (i : Nat) :
    (invalidateSamples s i).map f = invalidateSamples (s.map f) i := by
  unfold invalidateSamples
  by_cases h : i ≥ s.samples
  · simp [h]
  · have e : toIndex (s.map f) i = toIndex s i := rfl
    simp only [h, State.map_samples, if_false, e, ← map_invalidateIdx]
    rfl

theorem map_resizeE (s : State α) (c : Nat) :
    (resizeE s c).map (State.map f) = resizeE (s.map f) c := by
  have h := map_latest f s (-(c : Int)) 0 (some s.fillv)
  simp only [Option.map] at h
  unfold resizeE
  rw [State.map_fillv, ← h]
  generalize latest s (-(c : Int)) 0 (some s.fillv) = r
  cases r <;> simp [Except.map, State.map]

theorem map_resize (s : State α) (c : Nat) : (resize s c).map f = resize (s.map f) c := by
  have h := map_resizeE f s c
  unfold resize
  rw [← h]
  generalize resizeE s c = r
  cases r <;> rfl

theorem map_step (s : State α) (op : Op α) : (step s op).map f = step (s.map f) (op.map f) := by
  cases op with
  | append xs => exact map_append f s xs
  | invalidate i => exact map_invalidateSamples f s i
  | resize c => exact map_resize f s c

theorem map_run (s : State α) (ops : List (Op α)) :
    (run s ops).map f = run (s.map f) (ops.map (Op.map f)) := by
  induction ops generalizing s with
  | nil => rfl
  | cons op ops ih => simp only [run, List.foldl_cons, List.map_cons] at ih ⊢; rw [ih, map_step]

end Psi.Buffer

import PsiProofs.Helper.C12_Lists
/-! Multi-channel (2-D) streams: a time column is a `Fin c → α`.  The whole-signal definitions of the stages commute
with the projection to a channel; `lfilter(axis=-1)` on `c` channels is `c` independent copies of the 1-D machine. -/
namespace Psi.Stages
variable {α β γ S : Type}

theorem strideAux_map (f : α → γ) (q : Nat) : ∀ (k : Nat) (l : List α),
    strideAux q k (l.map f) = (strideAux q k l).map f
  | _, [] => by simp [strideAux]
  | 0, a :: l => by simp [strideAux, strideAux_map f q (q - 1) l]
  | k + 1, a :: l => by simp [strideAux, strideAux_map f q k l]

theorem stride_map (f : α → γ) (q : Nat) (l : List α) : stride q (l.map f) = (stride q l).map f :=
  strideAux_map f q 0 l

theorem chunksOf_map (f : α → γ) (n : Nat) : ∀ (fuel : Nat) (l : List α),
    chunksOf n fuel (l.map f) = (chunksOf n fuel l).map (List.map f)
  | 0, _ => rfl
  | fuel + 1, l => by
    simp only [chunksOf, List.length_map]
    split
    · rw [← List.map_drop, chunksOf_map f n fuel, ← List.map_take]; rfl
    · rfl

theorem blocksOf_map (f : α → γ) (n : Nat) (l : List α) : blocksOf n (l.map f) = (blocksOf n l).map (List.map f) := by
  simp [blocksOf, chunksOf_map]

theorem diffs_map (f : α → γ) (d : α → α → β) (d' : γ → γ → β) (h : ∀ a b, d' (f a) (f b) = d a b) :
    ∀ (l : List α), diffs d' (l.map f) = diffs d l
  | [] => rfl
  | [_] => rfl
  | a :: b :: l => by
    have := diffs_map f d d' h (b :: l)
    simp only [List.map_cons] at this ⊢
    simp only [diffs, h, this]

theorem diffs_map_proj {c : Nat} (d : α → α → β) (r : Fin c) :
    ∀ (a : Fin c → α) (l : List (Fin c → α)),
    (diffs (fun (p x : Fin c → α) r => d (p r) (x r)) (a :: l)).map (· r) = diffs d (a r :: l.map (· r))
  | _, [] => rfl
  | a, b :: l => by
    have := diffs_map_proj d r b l
    simp only [List.map_cons, diffs] at this ⊢
    rw [this]

/-- the 1-D machine `m` on every channel, each channel with its own state (SciPy filters the rows of a 2-D array
independently; `zi` has one state vector per row) -/
def Mealy.channels (m : Mealy α β S) (c : Nat) : Mealy (Fin c → α) (Fin c → β) (Fin c → S) where
  step z x := (fun r => (m.step (z r) (x r)).1, fun r => (m.step (z r) (x r)).2)

theorem Mealy.channels_run (m : Mealy α β S) (c : Nat) (r : Fin c) : ∀ (cols : List (Fin c → α)) (z : Fin c → S),
    ((m.channels c).run z cols).1.map (· r) = (m.run (z r) (cols.map (· r))).1
    ∧ ((m.channels c).run z cols).2 r = (m.run (z r) (cols.map (· r))).2
  | [], z => ⟨rfl, rfl⟩
  | x :: cols, z => by
    have ih := Mealy.channels_run m c r cols ((m.channels c).step z x).2
    simp only [Mealy.run, List.map_cons]
    exact ⟨by rw [ih.1]; rfl, by rw [ih.2]; rfl⟩

end Psi.Stages

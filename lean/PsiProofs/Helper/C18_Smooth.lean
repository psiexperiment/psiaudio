import PsiModel.Epochs
/-!
`smooth_epochs` sorts each COLUMN independently and sweeps with `ub := next.ub` (not a maximum).
The main result is that this equals the interval cover computed on the pair-sorted list with a
running maximum.  Key counting fact (`sweep_decision`): with `B` the sorted ends and `P` the
pair-sorted intervals (`lb ≤ ub` each), `B[i] < P[i+1].lb` iff the maximum end of `P[0..i]` is
`< P[i+1].lb`, and then `B[i]` *is* that maximum.
`debounce_epochs` calls `smooth_epochs` on column-sorted input, where the sorts do nothing.
-/
namespace Psi.Epochs

/-- what the two insertion functions of the model have in common: `ins a` puts `a` in front of a head
it is `R`-below, or steps past a head that is `R`-below `a` -/
def InsertStep {α} (R : α → α → Prop) (ins : α → List α → List α) : Prop :=
  (∀ a, ins a [] = [a]) ∧
  ∀ a b bs, (R a b ∧ ins a (b :: bs) = a :: b :: bs) ∨ (R b a ∧ ins a (b :: bs) = b :: ins a bs)

theorem InsertStep.perm {α} {R : α → α → Prop} {ins} (h : InsertStep R ins) (a : α) :
    ∀ l, (ins a l).Perm (a :: l) := by
  intro l
  induction l with
  | nil => rw [h.1]
  | cons b bs ih =>
    rcases h.2 a b bs with ⟨_, e⟩ | ⟨_, e⟩ <;> rw [e]
    exact ((List.perm_cons b).mpr ih).trans (List.Perm.swap a b bs)

theorem InsertStep.sorted {α} {R : α → α → Prop} {ins} (h : InsertStep R ins)
    (htr : ∀ {a b c}, R a b → R b c → R a c) (a : α) :
    ∀ l, l.Pairwise R → (ins a l).Pairwise R := by
  intro l
  induction l with
  | nil => intro _; rw [h.1]; exact List.pairwise_singleton R a
  | cons b bs ih =>
    intro hl
    rcases h.2 a b bs with ⟨hab, e⟩ | ⟨hba, e⟩ <;> rw [e]
    · refine List.pairwise_cons.mpr ⟨fun x hx => ?_, hl⟩
      rcases List.mem_cons.mp hx with rfl | hx
      · exact hab
      · exact htr hab (List.rel_of_pairwise_cons hl hx)
    · refine List.pairwise_cons.mpr ⟨fun x hx => ?_, ih hl.tail⟩
      rcases List.mem_cons.mp ((h.perm a bs).mem_iff.mp hx) with rfl | hx
      · exact hba
      · exact List.rel_of_pairwise_cons hl hx

theorem InsertStep.sort {α} {R : α → α → Prop} {ins} (h : InsertStep R ins)
    (htr : ∀ {a b c}, R a b → R b c → R a c) {sort : List α → List α} (h0 : sort [] = [])
    (hc : ∀ a l, sort (a :: l) = ins a (sort l)) : ∀ l, (sort l).Perm l ∧ (sort l).Pairwise R := by
  intro l
  induction l with
  | nil => rw [h0]; exact ⟨.refl _, .nil⟩
  | cons a as ih =>
    rw [hc]
    exact ⟨(h.perm a _).trans ((List.perm_cons a).mpr ih.1), h.sorted htr a _ ih.2⟩

theorem insertSorted_step : InsertStep (· ≤ · : Int → Int → Prop) insertSorted := by
  refine ⟨fun _ => rfl, fun a b bs => ?_⟩
  rw [insertSorted]
  by_cases h : a ≤ b
  · exact Or.inl ⟨h, if_pos h⟩
  · exact Or.inr ⟨by omega, if_neg h⟩

theorem insertPair_step : InsertStep (fun x y : Int × Int => x.1 ≤ y.1) insertPair := by
  refine ⟨fun _ => rfl, fun p q qs => ?_⟩
  rw [insertPair]
  by_cases h : p.1 < q.1 ∨ (p.1 = q.1 ∧ p.2 ≤ q.2)
  · exact Or.inl ⟨by omega, if_pos h⟩
  · exact Or.inr ⟨by omega, if_neg h⟩

theorem sortInts_perm (l : List Int) : (sortInts l).Perm l :=
  (insertSorted_step.sort Int.le_trans rfl (fun _ _ => rfl) l).1

theorem sortInts_sorted (l : List Int) : (sortInts l).Pairwise (· ≤ ·) :=
  (insertSorted_step.sort Int.le_trans rfl (fun _ _ => rfl) l).2

theorem sortPairs_perm (l : List (Int × Int)) : (sortPairs l).Perm l :=
  (insertPair_step.sort Int.le_trans rfl (fun _ _ => rfl) l).1

theorem sortPairs_sorted (l : List (Int × Int)) : (sortPairs l).Pairwise (fun x y => x.1 ≤ y.1) :=
  (insertPair_step.sort Int.le_trans rfl (fun _ _ => rfl) l).2

theorem sortInts_eq_of_sorted_perm {l s : List Int} (hs : s.Pairwise (· ≤ ·)) (hp : s.Perm l) :
    sortInts l = s :=
  List.Perm.eq_of_pairwise (le := (· ≤ ·)) (fun _ _ _ _ h1 h2 => Int.le_antisymm h1 h2)
    (sortInts_sorted l) hs ((sortInts_perm l).trans hp.symm)

theorem sortInts_id {l : List Int} (h : l.Pairwise (· ≤ ·)) : sortInts l = l :=
  sortInts_eq_of_sorted_perm h (List.Perm.refl _)

theorem sortPairs_map_fst (l : List (Int × Int)) :
    sortInts (l.map (·.1)) = (sortPairs l).map (·.1) :=
  sortInts_eq_of_sorted_perm (List.pairwise_map.mpr (sortPairs_sorted l))
    ((sortPairs_perm l).map _)

theorem le_last_of_sorted {B : List Int} {u : Int} (hs : B.Pairwise (· ≤ ·))
    (hl : B.getLast? = some u) : u ∈ B ∧ ∀ x ∈ B, x ≤ u := by
  obtain ⟨ys, rfl⟩ := List.getLast?_eq_some_iff.mp hl
  refine ⟨by simp, ?_⟩
  intro x hx
  rcases List.mem_append.mp hx with hx | hx
  · exact (List.pairwise_append.mp hs).2.2 x hx u (by simp)
  · simp at hx; omega

theorem countP_lt_eq_length_iff {l : List Int} {u a : Int} (hmem : u ∈ l) (hle : ∀ x ∈ l, x ≤ u) :
    l.countP (· < a) = l.length ↔ u < a := by
  rw [List.countP_eq_length]
  exact ⟨fun h => by simpa using h u hmem, fun h x hx => by have := hle x hx; simp; omega⟩

theorem full_count_iff {b1 b2 s1 n : Nat} (hc : b1 + b2 = s1) (hs : s1 ≤ n) :
    (b1 = n → s1 = n ∧ b2 = 0) ∧ (s1 = n → b2 = 0 → b1 = n) := by
  omega

/-- In the header's notation: `B1 ++ B2` are the sorted ends `B` split after position `i` (`ub = B[i]`), `S1 ++ S2`
the ends of the pair-sorted `P` split at the same place, `M` the maximum end of `P[0..i]` and `a = P[i+1].lb`;
`hS2` holds because every later interval has `a ≤ lb ≤ ub`. -/
theorem sweep_decision {B1 B2 S1 S2 : List Int} {a ub M : Int}
    (hB : (B1 ++ B2).Pairwise (· ≤ ·))
    (hperm : (B1 ++ B2).Perm (S1 ++ S2))
    (hlen : B1.length = S1.length)
    (hub : B1.getLast? = some ub)
    (hM1 : ∀ x ∈ S1, x ≤ M) (hM2 : M ∈ S1)
    (hS2 : ∀ x ∈ S2, a ≤ x) :
    (ub < a ↔ M < a) ∧ (ub < a → ub = M) := by
  obtain ⟨hBs1, -, hB12⟩ := List.pairwise_append.mp hB
  obtain ⟨hubmem, hle⟩ := le_last_of_sorted hBs1 hub
  -- count the entries `< a`: none in `S2`, and none in `B2` unless `ub < a`
  have hS2c : S2.countP (· < a) = 0 :=
    List.countP_eq_zero.mpr fun x hx => by simpa using hS2 x hx
  have hc : B1.countP (· < a) + B2.countP (· < a) = S1.countP (· < a) := by
    rw [← List.countP_append, hperm.countP_eq, List.countP_append, hS2c, Nat.add_zero]
  have hB2c : ¬ ub < a → B2.countP (· < a) = 0 := fun h =>
    List.countP_eq_zero.mpr fun y hy => by have := hB12 ub hubmem y hy; simp; omega
  have hB1 := countP_lt_eq_length_iff (a := a) hubmem hle
  have hS1 := countP_lt_eq_length_iff (a := a) hM2 hM1
  rw [hlen] at hB1
  -- `B1` lies entirely below `a` iff `S1` does: same length, same count unless `B2` has entries `< a`
  obtain ⟨hfull, hback⟩ := full_count_iff hc List.countP_le_length
  have hiff : ub < a ↔ M < a :=
    ⟨fun h => hS1.mp (hfull (hB1.mpr h)).1,
     fun h => Classical.byContradiction fun hu => hu (hB1.mp (hback (hS1.mpr h) (hB2c hu)))⟩
  refine ⟨hiff, fun h => ?_⟩
  -- then `B1` and `S1` both hold exactly the entries `< a`, so their greatest members agree
  have hB2z := (hfull (hB1.mpr h)).2
  have hMB : M ∈ B1 := by
    rcases List.mem_append.mp (hperm.mem_iff.mpr (List.mem_append_left _ hM2)) with h' | h'
    · exact h'
    · exact absurd (hiff.mp h) (by simpa using List.countP_eq_zero.mp hB2z M h')
  have hubS : ub ∈ S1 := by
    rcases List.mem_append.mp (hperm.mem_iff.mp (List.mem_append_left _ hubmem)) with h' | h'
    · exact h'
    · exact absurd h (Int.not_lt.mpr (hS2 ub h'))
  exact Int.le_antisymm (hM1 ub hubS) (hle M hMB)

/-- joint induction over the unread intervals `P` (pair-sorted) and unread sorted ends `B2`: `S` are the
ends of the intervals read so far and `M` their maximum, `B1` the sorted ends read so far and `ub` the
last of them.  The sweep and the running-max cover take the same decisions and close groups with the
same upper bound. -/
theorem sweepGo_eq_coverGo : ∀ (P : List (Int × Int)) (S B1 B2 : List Int) (lb ub M : Int),
    P.Pairwise (fun p q => p.1 ≤ q.1) →
    (∀ p ∈ P, p.1 ≤ p.2) →
    (B1 ++ B2).Pairwise (· ≤ ·) →
    (B1 ++ B2).Perm (S ++ P.map (·.2)) →
    B1.length = S.length →
    B1.getLast? = some ub →
    (∀ x ∈ S, x ≤ M) → M ∈ S →
    sweepGo lb ub ((P.map (·.1)).zip B2) = coverGo lb M P := by
  intro P
  induction P with
  | nil =>
    intro S B1 B2 lb ub M _ _ hB hperm hlen hub hM1 hM2
    -- nothing is left to read, so the last end read is the greatest of all
    rw [(sweep_decision (a := ub + 1) hB hperm hlen hub hM1 hM2 (fun _ h => by simp at h)).2 (by omega)]
    rfl
  | cons p P ih =>
    intro S B1 B2 lb ub M hP hle hB hperm hlen hub hM1 hM2
    obtain ⟨a, c⟩ := p
    cases B2 with
    | nil =>
      have := hperm.length_eq
      simp at this; omega
    | cons b' B2 =>
      obtain ⟨hPa, hP'⟩ := List.pairwise_cons.mp hP
      have hac : a ≤ c := hle (a, c) List.mem_cons_self
      -- all ends in the unread part are ≥ a
      have hS2 : ∀ x ∈ ((a, c) :: P).map (·.2), a ≤ x := by
        intro x hx
        obtain ⟨q, hq, rfl⟩ := List.mem_map.mp hx
        have := hle q hq
        rcases List.mem_cons.mp hq with rfl | hq
        · exact hac
        · have := hPa q hq; omega
      obtain ⟨hdec, heq⟩ := sweep_decision hB hperm hlen hub hM1 hM2 hS2
      have step := ih (S ++ [c]) (B1 ++ [b']) B2
      rw [List.append_assoc, List.append_assoc] at step
      have step := fun lb M => step lb b' M hP' (fun q hq => hle q (List.mem_cons_of_mem _ hq))
        hB hperm (by simp [hlen]) (by simp)
      simp only [List.map_cons, List.zip_cons_cons, sweepGo, coverGo]
      have hSc : ∀ M', M ≤ M' → c ≤ M' → ∀ x ∈ S ++ [c], x ≤ M' := fun M' h1 h2 x hx => by
        rcases List.mem_append.mp hx with hx | hx
        · exact Int.le_trans (hM1 x hx) h1
        · rw [List.mem_singleton.mp hx]; exact h2
      by_cases hlt : ub < a
      · -- both close the group at `M` and open `[a, c]`
        have hMa := hdec.mp hlt
        rw [if_neg (Int.not_le.mpr hlt), if_neg (Int.not_le.mpr hMa), heq hlt]
        congr 1
        exact step a c (hSc c (Int.le_trans (Int.le_of_lt hMa) hac) (Int.le_refl c)) (by simp)
      · -- both extend the group; the cover's new maximum is `M` or `c`
        rw [if_pos (Int.not_lt.mp hlt), if_pos (Int.not_lt.mp (mt hdec.mpr hlt))]
        refine step lb (max M c) (hSc _ (Int.le_max_left M c) (Int.le_max_right M c)) ?_
        by_cases hmc : M ≤ c
        · rw [Int.max_eq_right hmc]; simp
        · rw [Int.max_eq_left (by omega)]; exact List.mem_append_left _ hM2

def ColSorted (e : List (Int × Int)) : Prop :=
  (e.map (·.1)).Pairwise (· ≤ ·) ∧ (e.map (·.2)).Pairwise (· ≤ ·)

/-- what `epochs` returns -/
def SortedDisjoint (e : List (Int × Int)) : Prop :=
  (∀ p ∈ e, p.1 < p.2) ∧ e.Pairwise (fun p q => p.2 < q.1)

theorem SortedDisjoint.colSorted {e : List (Int × Int)} (h : SortedDisjoint e) : ColSorted e :=
  ⟨List.pairwise_map.mpr (h.2.imp_of_mem fun hp _ hpq => by have := h.1 _ hp; omega),
   List.pairwise_map.mpr (h.2.imp_of_mem fun _ hq hpq => by have := h.1 _ hq; omega)⟩

theorem ColSorted.filter {e : List (Int × Int)} (h : ColSorted e) (p : Int × Int → Bool) :
    ColSorted (e.filter p) :=
  ⟨h.1.sublist (List.filter_sublist.map _), h.2.sublist (List.filter_sublist.map _)⟩

theorem ColSorted.pad {e : List (Int × Int)} (h : ColSorted e) (d : Int) :
    ColSorted (e.map fun r => (r.1, r.2 + d)) := by
  constructor <;> rw [List.map_map, List.pairwise_map]
  · exact List.pairwise_map.mp h.1
  · exact (List.pairwise_map.mp h.2).imp fun hab => by simp only [Function.comp]; omega

theorem smoothEpochs_of_colSorted {e : List (Int × Int)} (h : ColSorted e) :
    smoothEpochs e = sweep e := by
  unfold smoothEpochs
  rw [sortInts_id h.1, sortInts_id h.2, ← List.zip_of_prod rfl rfl]

theorem sweepGo_pad (d : Int) : ∀ (rest : List (Int × Int)) (lb ub : Int),
    (sweepGo lb (ub + d) (rest.map (fun r => (r.1, r.2 + d)))).map (fun r => (r.1, r.2 - d))
      = joinGo d lb ub rest := by
  intro rest
  induction rest with
  | nil => intro lb ub; simp [sweepGo, joinGo]
  | cons p ps ih =>
    intro lb ub
    obtain ⟨a, b⟩ := p
    simp only [List.map_cons, sweepGo, joinGo]
    by_cases h : a - ub ≤ d
    · have h' : ub + d ≥ a := by omega
      simp only [h, h', if_true]
      exact ih lb b
    · have h' : ¬ (ub + d ≥ a) := by omega
      simp only [h, h', if_false, List.map_cons]
      rw [ih a b]
      simp

theorem sweep_pad (d : Int) (k : List (Int × Int)) :
    (sweep (k.map (fun r => (r.1, r.2 + d)))).map (fun r => (r.1, r.2 - d)) = joinGaps d k := by
  cases k with
  | nil => rfl
  | cons p ps =>
    obtain ⟨a, b⟩ := p
    simp only [List.map_cons, sweep, joinGaps]
    exact sweepGo_pad d ps a b

theorem joinGo_id (d : Int) : ∀ (rest : List (Int × Int)) (lb ub : Int),
    ((lb, ub) :: rest).Pairwise (fun p q => p.2 + d < q.1) →
    joinGo d lb ub rest = (lb, ub) :: rest := by
  intro rest
  induction rest with
  | nil => intro lb ub _; rfl
  | cons p ps ih =>
    intro lb ub h
    obtain ⟨a, b⟩ := p
    have h1 := List.pairwise_cons.mp h
    have hab : ub + d < a := h1.1 (a, b) List.mem_cons_self
    have : ¬ (a - ub ≤ d) := by omega
    simp only [joinGo, this, if_false]
    rw [ih a b h1.2]

theorem joinGaps_id (d : Int) (k : List (Int × Int))
    (h : k.Pairwise (fun p q => p.2 + d < q.1)) : joinGaps d k = k := by
  cases k with
  | nil => rfl
  | cons p ps => obtain ⟨a, b⟩ := p; exact joinGo_id d ps a b h

end Psi.Epochs

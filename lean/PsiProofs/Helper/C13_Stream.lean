import PsiModel.Edges
import PsiProofs.Helper.C13_Window
/-!
C13, stream level: the windows seen by successive steps are infixes of `replicate m init ++ stream`;
every block is a filter of the stream's transition list.
-/
namespace Psi.Edges
open Psi.Epochs

/-- the precondition: every run between two transitions exceeds `m` (the first sample is compared with the initial
state).  The run before the first and the run after the last transition are unconstrained. -/
def Clean (m : Nat) (i0 : Bool) (x : List Bool) : Prop :=
  (edgesOf i0 0 x).Pairwise (Gap m)

def specBlocks (det : Detect) (m : Nat) (G : List Event) : Int → List (List Bool) → List Block
  | _, [] => []
  | s0, c :: cs =>
    ⟨G.filter (sel det m s0 c.length), s0, s0 + c.length⟩ :: specBlocks det m G (s0 + c.length) cs

theorem edgesOf_shift (d : Int) : ∀ (xs : List Bool) (prev : Bool) (pos : Int),
    edgesOf prev (pos + d) xs = (edgesOf prev pos xs).map (fun e => ⟨e.kind, e.sample + d⟩) := by
  intro xs
  induction xs with
  | nil => intro _ _; rfl
  | cons b xs ih =>
    intro prev pos
    simp only [edgesOf, List.map_append]
    have : pos + d + 1 = pos + 1 + d := by omega
    rw [this, ih b (pos + 1)]
    split <;> simp

theorem edgesOf_append : ∀ (xs ys : List Bool) (prev : Bool) (pos : Int),
    edgesOf prev pos (xs ++ ys)
      = edgesOf prev pos xs ++ edgesOf (final prev xs) (pos + xs.length) ys := by
  intro xs
  induction xs with
  | nil => intro ys prev pos; simp [edgesOf, final]
  | cons b xs ih =>
    intro ys prev pos
    simp only [List.cons_append, edgesOf, final, ih, List.append_assoc, List.length_cons]
    have : pos + 1 + (xs.length : Int) = pos + ((xs.length + 1 : Nat) : Int) := by omega
    rw [this]

theorem edgesOf_bounds : ∀ (xs : List Bool) (prev : Bool) (pos : Int),
    ∀ e ∈ edgesOf prev pos xs, pos ≤ e.sample ∧ e.sample < pos + xs.length := by
  intro xs
  induction xs with
  | nil => intro _ _ e h; simp [edgesOf] at h
  | cons b xs ih =>
    intro prev pos e h
    simp only [edgesOf, List.mem_append] at h
    rcases h with h | h
    · split at h
      · simp at h; subst h; simp; omega
      · simp at h
    · have := ih b (pos + 1) e h
      simp only [List.length_cons]; omega

theorem edgesOf_replicate_append (v : Bool) (ys : List Bool) : ∀ (l : Nat) (pos : Int),
    edgesOf v pos (List.replicate l v ++ ys) = edgesOf v (pos + l) ys := by
  intro l
  induction l with
  | zero => intro pos; simp
  | succ l ih =>
    intro pos
    simp only [List.replicate_succ, List.cons_append, edgesOf, bne_self_eq_false, Bool.false_eq_true,
      if_false, List.nil_append, ih]
    congr 1
    omega

/-- `Clean` is stated at position 0; the gaps do not depend on where the stream starts. -/
theorem clean_at {m : Nat} {i0 : Bool} {x : List Bool} (h : Clean m i0 x) (s : Int) :
    (edgesOf i0 s x).Pairwise (Gap m) := by
  have := edgesOf_shift s x i0 0
  rw [Int.zero_add] at this
  rw [this, List.pairwise_map]
  refine List.Pairwise.imp ?_ h
  intro a b hab
  simp only [Gap] at hab ⊢
  omega

/-- a window `W` of `m + n` samples inside a longer stream: `sel` cannot tell the stream's transitions from the
window's, and the window's transitions inherit the spacing. -/
theorem window_of_stream (i0 : Bool) (base : Int) (front W rest : List Bool) (m n : Nat)
    (det : Detect) (hm : 1 ≤ m) (hW : W.length = m + n) :
    ((edgesOf i0 base (front ++ W ++ rest)).filter (sel det m (base + front.length) n)
        = (wEdges (base + front.length) W).filter (sel det m (base + front.length) n)) ∧
    ((edgesOf i0 base (front ++ W ++ rest)).Pairwise (Gap m) →
        (wEdges (base + front.length) W).Pairwise (Gap m)) := by
  cases W with
  | nil => simp at hW; omega
  | cons b w =>
    have hlen : ((b :: w).length : Int) = (m : Int) + n := by rw [hW]; omega
    rw [List.append_assoc, edgesOf_append, edgesOf_append]
    generalize final i0 front = f1
    generalize final f1 (b :: w) = f2
    simp only [edgesOf, wEdges]
    generalize hs0 : base + (front.length : Int) = s0
    have hA := edgesOf_bounds front i0 base
    have hB := edgesOf_bounds rest f2 (s0 + ((b :: w).length : Int))
    constructor
    · simp only [List.filter_append]
      have e1 : (edgesOf i0 base front).filter (sel det m s0 n) = [] :=
        List.filter_eq_nil_iff.mpr fun e he h => by
          have := hA e he; have := sel_range hm h; omega
      have e2 : (if (b != f1) = true then [Event.mk (if b = true then Kind.rising else Kind.falling) s0]
          else []).filter (sel det m s0 n) = [] :=
        List.filter_eq_nil_iff.mpr fun e he h => by
          split at he
          · cases List.mem_singleton.mp he; exact Int.lt_irrefl s0 (sel_range hm h).1
          · cases he
      have e3 : (edgesOf f2 (s0 + ((b :: w).length : Int)) rest).filter (sel det m s0 n) = [] :=
        List.filter_eq_nil_iff.mpr fun e he h => by
          have := hB e he; have := sel_range hm h; omega
      rw [e1, e2, e3]; simp
    · intro hp
      have h1 := (List.pairwise_append.mp hp).2.1
      have h2 := (List.pairwise_append.mp h1).1
      exact (List.pairwise_append.mp h2).2.1

theorem drop_append_drop {α} (l r : List α) {a : Nat} (ha : a ≤ l.length) (b : Nat) :
    (l.drop a ++ r).drop b = (l ++ r).drop (a + b) := by
  rw [← List.drop_drop, List.drop_append_of_le_length ha]

/-- invariant of `run`: the samples seen so far are `front ++ prior`, the state holds `prior` (the
last `m` of them) and the absolute index of its first sample -/
theorem run_spec_aux (m : Nat) (det : Detect) (i0 : Bool) (base : Int) (hm : 1 ≤ m) :
    ∀ (cs : List (List Bool)) (front prior : List Bool), prior.length = m →
    (edgesOf i0 base (front ++ prior ++ cs.flatten)).Pairwise (Gap m) →
    run m det ⟨prior, base + front.length⟩ cs
      = .ok (⟨(prior ++ cs.flatten).drop cs.flatten.length,
              base + front.length + cs.flatten.length⟩,
             specBlocks det m (edgesOf i0 base (front ++ prior ++ cs.flatten))
               (base + front.length) cs) := by
  intro cs
  induction cs with
  | nil => intro front prior _ _; simp [run, specBlocks]
  | cons c cs ih =>
    intro front prior hpl hG
    have hfull : front ++ prior ++ (c :: cs).flatten = front ++ (prior ++ c) ++ cs.flatten := by simp
    obtain ⟨hfilt, hgap⟩ := window_of_stream i0 base front (prior ++ c) cs.flatten m c.length det hm
      (by simp [hpl])
    rw [← hfull] at hfilt hgap
    have hstep := step_events m c.length det ⟨prior, base + front.length⟩ c hpl rfl (hgap hG)
    have hcut : (prior ++ c).length - m = c.length := by simp [hpl]
    have hih := ih (front ++ (prior ++ c).take c.length) ((prior ++ c).drop c.length)
      (by simp [hpl]) (by rw [List.append_assoc front, List.take_append_drop, ← hfull]; exact hG)
    rw [List.append_assoc front, List.take_append_drop, ← hfull] at hih
    have hfl : base + ((front ++ (prior ++ c).take c.length).length : Int)
        = base + front.length + c.length := by simp; omega
    rw [hfl] at hih
    simp only [run, hstep, hcut, hih, specBlocks, hfilt]
    rw [drop_append_drop _ _ (by simp), List.append_assoc]
    simp only [List.flatten_cons, List.length_append, Int.natCast_add, Int.add_assoc]

def ofRuns : Bool → List Nat → List Bool
  | _, [] => []
  | v, l :: ls => List.replicate l v ++ ofRuns (!v) ls

theorem gap_ofRuns (m : Nat) : ∀ (ls : List Nat) (v prev : Bool) (pos : Int),
    (∀ l ∈ ls, 1 ≤ l) → (∀ l ∈ ls.dropLast, m < l) →
    (edgesOf prev pos (ofRuns v ls)).Pairwise (Gap m) := by
  intro ls
  induction ls with
  | nil => intro v prev pos _ _; simp [ofRuns, edgesOf]
  | cons l ls ih =>
    intro v prev pos h1 h2
    have hl : 1 ≤ l := h1 l List.mem_cons_self
    have ih' := ih (!v) v (pos + l) (fun x hx => h1 x (List.mem_cons_of_mem _ hx))
      (fun x hx => h2 x (by
        cases ls with
        | nil => simp at hx
        | cons a as => simp only [List.dropLast_cons_cons]; exact List.mem_cons_of_mem _ hx))
    by_cases hv : v = prev
    · subst hv
      simp only [ofRuns]
      rw [edgesOf_replicate_append]
      exact ih'
    · obtain ⟨k, rfl⟩ : ∃ k, l = k + 1 := ⟨l - 1, by omega⟩
      simp only [ofRuns, List.replicate_succ, List.cons_append, edgesOf]
      rw [edgesOf_replicate_append]
      have hne : (v != prev) = true := by simpa using hv
      have hpos : pos + 1 + (k : Int) = pos + ((k + 1 : Nat) : Int) := by omega
      simp only [hne, if_true, List.singleton_append, hpos]
      refine List.pairwise_cons.mpr ⟨?_, ih'⟩
      intro e he
      cases ls with
      | nil => simp [ofRuns, edgesOf] at he
      | cons a as =>
        have hm : m < k + 1 := h2 (k + 1) (by simp [List.dropLast_cons_cons])
        have := (edgesOf_bounds _ _ _ e he).1
        simp only [Gap]
        omega

end Psi.Edges

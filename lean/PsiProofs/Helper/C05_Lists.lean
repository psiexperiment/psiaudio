import PsiProofs.Helper.C05_Capture
/-! Helper lemmas for C05: the three loops of `extract_epochs` (removals, feed, intake) as filters /
filterMaps, filtering a list by a key, and the three ways one `call` ends. -/
namespace Psi.Extract

theorem hasKey_false_iff {α} (p : Pending α) (k : Nat) :
    hasKey p k = false ↔ ∀ c ∈ p, c.req.key ≠ k := by
  simp [hasKey]

theorem removeAll_pending {α} (p : Pending α) (rems : List Nat) :
    (removeAll p rems).1 = p.filter (fun c => !rems.contains c.req.key) := by
  induction rems generalizing p with
  | nil => simp only [removeAll]; exact (List.filter_eq_self.2 (fun _ _ => rfl)).symm
  | cons k ks ih =>
    simp only [removeAll]
    split
    · rw [ih, List.filter_filter]
      apply List.filter_congr
      intro c _
      simp only [List.contains_cons, Bool.not_or, bne, Bool.and_comm]
    · rename_i h
      have h' : ∀ c ∈ p, c.req.key ≠ k := (hasKey_false_iff p k).1 (by simpa using h)
      simp only [ih]
      apply List.filter_congr
      intro c hc
      have hk : c.req.key ≠ k := h' c hc
      simp [hk]

theorem filter_filter_key {β} (l : List β) (kb : β → Nat) (f : Nat → Bool) (k : Nat) :
    (l.filter (fun x => f (kb x))).filter (fun x => kb x == k) =
      if f k then l.filter (fun x => kb x == k) else [] := by
  rw [List.filter_filter]
  split
  · rename_i hf
    apply List.filter_congr
    intro x _
    by_cases hx : kb x = k
    · simp [hx, hf]
    · simp [hx]
  · rename_i hf
    rw [List.filter_eq_nil_iff]
    intro x _
    by_cases hx : kb x = k
    · simp [hx, hf]
    · simp [hx]

theorem hasKey_eq {α} (p : Pending α) (κ : Nat) :
    hasKey p κ = !(p.filter (fun c => c.req.key == κ)).isEmpty := by
  unfold hasKey
  induction p with
  | nil => rfl
  | cons c cs ih => cases h : c.req.key == κ <;> simp [h, ih]

/-- after `del epoch_coroutines[k]` the key `k` is not pending, the others are as before -/
theorem hasKey_filter_bne {α} (p : Pending α) (k κ : Nat) :
    hasKey (p.filter (fun c => c.req.key != k)) κ = (κ != k && hasKey p κ) := by
  rw [hasKey_eq, hasKey_eq, filter_filter_key p (fun c => c.req.key) (fun κ' => κ' != k) κ]
  cases κ != k <;> rfl

/-- the `skip` list holds every removal of `κ` except the one that hit a pending capture -/
theorem removeAll_skip_count {α} (p : Pending α) (rems : List Nat) (κ : Nat) :
    (removeAll p rems).2.count κ = rems.count κ - (if hasKey p κ then 1 else 0) := by
  induction rems generalizing p with
  | nil => simp [removeAll]
  | cons k ks ih =>
    simp only [removeAll]
    by_cases hk : hasKey p k = true
    · simp only [hk, if_true, ih]
      by_cases he : k = κ
      · subst he
        simp [hasKey_filter_bne, hk, List.count_cons_self]
      · rw [hasKey_filter_bne, bne_iff_ne.2 (Ne.symm he), Bool.true_and, List.count_cons_of_ne he]
    · have hk' : hasKey p k = false := by simpa using hk
      simp only [hk', Bool.false_eq_true, if_false]
      by_cases he : k = κ
      · subst he
        rw [List.count_cons_self, List.count_cons_self, ih, hk']
        simp
      · rw [List.count_cons_of_ne he, List.count_cons_of_ne he, ih]

/-- the feed loop and the intake loop, capture by capture and request by request: what goes on
pending and what is handed over -/
def feedMore {α} (T : Nat) (ch : List α) (c : Capture α) : Option (Capture α) := (c.feed T ch).more?

def feedStop {α} (T : Nat) (ch : List α) (c : Capture α) : Option (Epoch α) := (c.feed T ch).stop?

def intakeMore {α} (prior : List (Nat × List α)) (r : Request) : Option (Capture α) :=
  (replay (Capture.new r) prior).more?

def intakeStop {α} (prior : List (Nat × List α)) (r : Request) : Option (Epoch α) :=
  (replay (Capture.new r) prior).stop?

theorem feedAll_eq {α} (p : Pending α) (T : Nat) (ch : List α) :
    feedAll p T ch = (p.filterMap (feedMore T ch), p.filterMap (feedStop T ch)) := by
  induction p with
  | nil => rfl
  | cons c rest ih =>
    simp only [feedAll, ih, List.filterMap_cons, feedMore, feedStop]
    cases c.feed T ch <;> rfl

/-- the requests the intake loop does not skip: each entry of the `skip` list swallows the first
request with its key (`skip.remove(key)`) -/
def takeSkip : List Nat → List Request → List Request
  | _, [] => []
  | skip, r :: rs =>
    if skip.contains r.key then takeSkip (skip.erase r.key) rs else r :: takeSkip skip rs

theorem takeSkip_filter (skip : List Nat) (reqs : List Request) (κ : Nat) :
    (takeSkip skip reqs).filter (fun q => q.key == κ) =
      (reqs.filter (fun q => q.key == κ)).drop (skip.count κ) := by
  induction reqs generalizing skip with
  | nil => rw [takeSkip, List.filter_nil, List.drop_nil]
  | cons r rs ih =>
    by_cases hk : r.key = κ
    · -- a request with the key: swallowed iff the key is still in `skip`
      have hbeq : (r.key == κ) = true := beq_iff_eq.2 hk
      subst hk
      by_cases hs : r.key ∈ skip
      · obtain ⟨m, hm⟩ := Nat.exists_eq_succ_of_ne_zero (Nat.ne_of_gt (List.count_pos_iff.2 hs))
        rw [takeSkip, if_pos (List.contains_iff_mem.2 hs), ih, List.count_erase_self, hm, List.filter_cons,
          if_pos hbeq, List.drop_succ_cons, Nat.succ_sub_one]
      · rw [takeSkip, if_neg (fun h => hs (List.contains_iff_mem.1 h)), List.filter_cons, if_pos hbeq, ih,
          List.filter_cons, if_pos hbeq, List.count_eq_zero.2 hs, List.drop_zero, List.drop_zero]
    · -- another key: `skip` keeps its entries for `κ`
      have hbeq : ¬ (r.key == κ) = true := fun h => hk (beq_iff_eq.1 h)
      rw [takeSkip, List.filter_cons, if_neg hbeq]
      split
      · rw [ih, List.count_erase_of_ne (fun h => hk h.symm)]
      · rw [List.filter_cons, if_neg hbeq, ih]

/-- The intake loop in closed form: it takes in what `takeSkip` leaves, provided the keys of the
resulting pending list are pairwise distinct (otherwise line 829 raises). -/
theorem intakeAll_seq {α} (prior : List (Nat × List α)) (p : Pending α) (skip : List Nat)
    (reqs : List Request)
    (hnd : ((p ++ (takeSkip skip reqs).filterMap (intakeMore prior)).map (·.req.key)).Nodup) :
    intakeAll prior p skip reqs =
      some (p ++ (takeSkip skip reqs).filterMap (intakeMore prior),
            (takeSkip skip reqs).filterMap (intakeStop prior)) := by
  induction reqs generalizing p skip with
  | nil => rw [intakeAll, takeSkip, List.filterMap_nil, List.filterMap_nil, List.append_nil]
  | cons r rs ih =>
    by_cases hs : skip.contains r.key = true
    · rw [takeSkip, if_pos hs] at hnd ⊢
      rw [intakeAll, if_pos hs]
      exact ih p _ hnd
    · rw [takeSkip, if_neg hs] at hnd ⊢
      rw [intakeAll, if_neg hs]
      cases hrep : replay (Capture.new r) prior with
      | stop e =>
        have h1 : intakeMore prior r = none := congrArg Fed.more? hrep
        have h2 : intakeStop prior r = some e := congrArg Fed.stop? hrep
        rw [List.filterMap_cons_none h1] at hnd ⊢
        rw [List.filterMap_cons_some h2, ih p skip hnd]
      | more c =>
        have h1 : intakeMore prior r = some c := congrArg Fed.more? hrep
        have h2 : intakeStop prior r = none := congrArg Fed.stop? hrep
        rw [List.filterMap_cons_some h1] at hnd ⊢
        -- the keys are pairwise distinct, so the key of `r` is not pending: line 829 does not raise
        have hp : hasKey p r.key = false := by
          rw [hasKey_false_iff]
          intro c' hc' he
          rw [List.map_append, List.map_cons] at hnd
          refine (List.nodup_append.1 hnd).2.2 c'.req.key (List.mem_map_of_mem hc') c.req.key
            List.mem_cons_self ?_
          rw [he, Fed.more?_req _ c h1, replay_req]; rfl
        rw [← List.singleton_append, ← List.append_assoc] at hnd
        show (if hasKey p r.key = true then none else intakeAll prior (p ++ [c]) skip rs) = _
        rw [List.filterMap_cons_none h2, if_neg (by rw [hp]; exact Bool.false_ne_true),
          ih (p ++ [c]) skip hnd, List.append_assoc]
        rfl

theorem mergeOk_uniform {α} (L : Nat) (es : List (Epoch α))
    (h : ∀ e ∈ es, e.missed = false ∧ e.data.length = L) : mergeOk es = true := by
  cases es with
  | nil => rfl
  | cons e rest =>
    simp only [mergeOk, List.all_eq_true]
    intro e' he'
    have h1 := h e List.mem_cons_self
    have h2 := h e' (List.mem_cons_of_mem _ he')
    simp [h1.1, h1.2, h2.1, h2.2]

theorem filter_key_filterMap {β γ} (l : List β) (g : β → Option γ) (kb : β → Nat) (kc : γ → Nat) (k : Nat)
    (h : ∀ x ∈ l, ∀ y, g x = some y → kc y = kb x) :
    (l.filterMap g).filter (fun y => kc y == k) = (l.filter (fun x => kb x == k)).filterMap g := by
  induction l with
  | nil => rfl
  | cons x xs ih =>
    have ih' := ih (fun x hx => h x (List.mem_cons_of_mem _ hx))
    simp only [List.filterMap_cons, List.filter_cons]
    cases hg : g x with
    | none =>
      by_cases hk : kb x == k <;> simp [hk, hg, ih']
    | some y =>
      have hy := h x List.mem_cons_self y hg
      by_cases hk : kb x == k
      · have : (kc y == k) = true := by rw [hy]; exact hk
        simp [hk, hg, ih', this]
      · have : (kc y == k) = false := by rw [hy]; simpa using hk
        simp [hk, ih', this]

theorem filter_key_unique {β} (l : List β) (kb : β → Nat) (x : β)
    (hnd : (l.map kb).Nodup) (hx : x ∈ l) : l.filter (fun y => kb y == kb x) = [x] := by
  induction l with
  | nil => cases hx
  | cons y ys ih =>
    simp only [List.map_cons, List.nodup_cons] at hnd
    rcases List.mem_cons.1 hx with h | h
    · subst h
      have : ys.filter (fun y => kb y == kb x) = [] := by
        rw [List.filter_eq_nil_iff]
        intro z hz hzk
        exact hnd.1 (by rw [← beq_iff_eq.1 hzk]; exact List.mem_map_of_mem hz)
      simp [this]
    · have hne : (kb y == kb x) = false := by
        apply Bool.eq_false_iff.2
        intro hyx
        exact hnd.1 (by rw [beq_iff_eq.1 hyx]; exact List.mem_map_of_mem h)
      simp [hne, ih hnd.2 h]

theorem length_filter_key {β} (l : List β) (f : β → Nat) (κ : Nat) :
    (l.filter (fun x => f x == κ)).length = (l.map f).count κ := by
  rw [List.count, List.countP_map, List.countP_eq_length_filter]
  rfl

theorem filter_le_one_of_nodup {β} (l : List β) (f : β → Nat) (κ : Nat) (h : (l.map f).Nodup) :
    (l.filter (fun x => f x == κ)).length ≤ 1 :=
  length_filter_key l f κ ▸ List.nodup_iff_count.1 h κ

theorem nodup_of_filter_le_one {β} (l : List β) (f : β → Nat)
    (h : ∀ κ, (l.filter (fun x => f x == κ)).length ≤ 1) : (l.map f).Nodup :=
  List.nodup_iff_count.2 (fun κ => length_filter_key l f κ ▸ h κ)

/-- what the intake loop of a call returns: it runs on the captures that survived the removals and
the feed loop, with the `skip` list of this call, over `queue` and the caller's requests -/
abbrev intakeOf {α} (st : State α) (c : Call α) : Option (Pending α × List (Epoch α)) :=
  intakeAll (st.prior ++ [(st.tlb, c.chunk)]) (feedAll (removeAll st.pending c.rems).1 st.tlb c.chunk).1
    (removeAll st.pending c.rems).2 (st.queue ++ c.reqs)

abbrev fedOf {α} (st : State α) (c : Call α) : List (Epoch α) :=
  (feedAll (removeAll st.pending c.rems).1 st.tlb c.chunk).2

/-- `send` on the finished generator -/
theorem call_dead {α} (st : State α) (c : Call α) (h : st.dead = true) : call st c = (st, .dead) := by
  simp only [call, h, if_true]

theorem call_ok {α} (st : State α) (c : Call α) (p : Pending α) (es : List (Epoch α))
    (hd : st.dead = false) (hi : intakeOf st c = some (p, es)) (hm : mergeOk (fedOf st c ++ es) = true) :
    call st c =
      ({ st with tlb := st.tlb + c.chunk.length, pending := p,
                 prior := prune st.bufferSamples (st.tlb + c.chunk.length) (st.prior ++ [(st.tlb, c.chunk)]),
                 queue := c.late,
                 doneFired := st.doneFired || (c.complete && c.late.isEmpty && p.isEmpty && !st.doneFired) },
       .ok (fedOf st c ++ es) (c.complete && c.late.isEmpty && p.isEmpty && !st.doneFired)) := by
  simp only [call, hd, Bool.false_eq_true, if_false, hi, hm, Bool.not_true]

theorem call_raise {α} (st : State α) (c : Call α) (hd : st.dead = false)
    (hr : intakeOf st c = none ∨
      ∃ p es, intakeOf st c = some (p, es) ∧ mergeOk (fedOf st c ++ es) = false) :
    call st c = ({ st with dead := true }, .valueError) := by
  rcases hr with hi | ⟨p, es, hi, hm⟩
  · simp only [call, hd, Bool.false_eq_true, if_false, hi]
  · simp only [call, hd, Bool.false_eq_true, if_false, hi, hm, Bool.not_false, if_true]

theorem call_cases {α} (st : State α) (c : Call α) :
    (st.dead = true ∧ call st c = (st, .dead)) ∨
    (st.dead = false ∧
      (intakeOf st c = none ∨ ∃ p es, intakeOf st c = some (p, es) ∧ mergeOk (fedOf st c ++ es) = false) ∧
      call st c = ({ st with dead := true }, .valueError)) ∨
    ∃ p es, st.dead = false ∧ intakeOf st c = some (p, es) ∧ mergeOk (fedOf st c ++ es) = true := by
  cases hd : st.dead with
  | true => exact Or.inl ⟨rfl, call_dead st c hd⟩
  | false =>
    cases hi : intakeOf st c with
    | none => exact Or.inr (Or.inl ⟨rfl, Or.inl rfl, call_raise st c hd (Or.inl hi)⟩)
    | some pe =>
      obtain ⟨p, es⟩ := pe
      cases hm : mergeOk (fedOf st c ++ es) with
      | true => exact Or.inr (Or.inr ⟨p, es, rfl, rfl, hm⟩)
      | false =>
        exact Or.inr (Or.inl ⟨rfl, Or.inr ⟨p, es, rfl, hm⟩, call_raise st c hd (Or.inr ⟨p, es, hi, hm⟩)⟩)

end Psi.Extract

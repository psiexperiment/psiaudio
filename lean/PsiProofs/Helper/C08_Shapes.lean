import PsiProofs.Helper.C08_Fir
import PsiProofs.Helper.C16_DftThms
/-!
Lemmas for the stimulus shapes of `psiaudio/stim.py`: each is homogeneous of degree one in its scale factor
(tone, SAM component, chirp, envelope × carrier, wav playback, band-limited click as the inverse real DFT of a
flat band) and odd in its polarity; filtered noise inherits both from `lfilter`.
-/
open Finset

namespace Psi.Db

theorem map_comp_eq {β γ : Type} (φ : γ → γ) {f f' : β → γ} (h : ∀ b, f' b = φ (f b)) (l : List β) :
    l.map f' = (l.map f).map φ := by
  rw [List.map_map]; exact List.map_congr_left fun b _ => h b

theorem tone_scale (g pol sf fs f ph : ℝ) (off j : ℕ) :
    tone pol (g * sf) fs f ph off j = g * tone pol sf fs f ph off j := by
  simp only [tone]; ring

theorem tone_eq_toneSig (n k : ℕ) (sf fs ph : ℝ) (hfs : fs ≠ 0) (j : ℕ) :
    tone (nat 1) sf fs (k * fs / n) ph 0 j = toneSig n k sf ph j := by
  rw [toneSig_eq]
  simp only [tone, nat_real, sqrt_real, cos_real, pi_real, Nat.cast_one, Nat.cast_ofNat, Nat.add_zero, one_mul]
  rw [toneConv_angle n k j fs hfs]
  ring

section Generic
variable {α : Type}
-- instance search otherwise walks Mathlib's algebraic hierarchy before it finds these
attribute [local instance 1100] DbField.toAdd DbField.toSub DbField.toMul DbField.toNeg

theorem samPart_eq_tone [TrigField α] (pol sfi fs fi phi : α) (off j : ℕ) :
    samPart pol sfi fs fi phi off j = tone pol sfi fs fi phi off j := rfl

theorem modulate_hom [TrigField α] {φ : α → α} (hmul : ∀ a b : α, φ (a * b) = a * φ b) (env tok : List α) :
    modulate env (tok.map φ) = (modulate env tok).map φ := by
  simp only [modulate, List.zipWith_map_right, List.map_zipWith]
  congr 1
  funext a b
  exact (hmul a b).symm

/-- the output stage of `filtStim`: drop the onset, apply the output polarity -/
theorem drop_mul_hom [DbField α] {φ : α → α} (hr : ∀ y p : α, φ (y * p) = φ y * p) (p : α) (d : ℕ)
    (ys : List α) : ((ys.map φ).drop d).map (· * p) = ((ys.drop d).map (· * p)).map φ := by
  rw [← List.map_drop, List.map_map, List.map_map]
  exact List.map_congr_left fun y _ => (hr y p).symm

theorem filtStim_hom [DbField α] {φ : α → α} (h : LfilterHom φ) (hr : ∀ y p : α, φ (y * p) = φ y * p)
    {polIn polIn' low high low' high' : α}
    (hin : ∀ r, polIn' * uniform low' high' r = φ (polIn * uniform low high r))
    (polOut b0 : α) (bt atl z0 : List α) (discard : ℕ) (u : List α) :
    filtStim polIn' polOut low' high' b0 bt atl (z0.map φ) discard u
      = (filtStim polIn polOut low high b0 bt atl z0 discard u).map φ := by
  unfold filtStim
  rw [map_comp_eq φ hin, lfilter_hom h]
  exact drop_mul_hom hr polOut discard _

end Generic

theorem uniform_scale (g polIn low high u : ℝ) :
    polIn * uniform (g * low) (g * high) u = g * (polIn * uniform low high u) := by
  simp only [uniform]; ring

theorem rmsL_real (x : List ℝ) : rmsL x = Real.sqrt ((x.map fun v => v * v).sum / x.length) := by
  simp only [rmsL, sqrt_real, sumList_eq_sum, nat_real]

theorem sum_sq_scale (c : ℝ) (x : List ℝ) :
    ((x.map (c * ·)).map fun v => v * v).sum = c ^ 2 * (x.map fun v => v * v).sum := by
  rw [List.map_map, ← List.sum_map_mul_left]
  exact congrArg List.sum (List.map_congr_left fun v _ => by simp only [Function.comp]; ring)

theorem rmsL_scale (c : ℝ) (x : List ℝ) : rmsL (x.map (c * ·)) = |c| * rmsL x := by
  rw [rmsL_real, rmsL_real, sum_sq_scale, List.length_map, mul_div_assoc,
    Real.sqrt_mul (sq_nonneg c), Real.sqrt_sq_eq_abs]

theorem lmaxFrom_real (m : ℝ) (l : List ℝ) :
    lmaxFrom m l = l.foldl (fun m x => if m < x then x else m) m := by
  induction l generalizing m with
  | nil => rfl
  | cons x t ih => simp only [lmaxFrom, ltb_real, decide_eq_true_eq, List.foldl_cons, ih]

theorem rmsL_nonneg (x : List ℝ) : 0 ≤ rmsL x := by rw [rmsL_real]; exact Real.sqrt_nonneg _

theorem lmaxFrom_cons (m x : ℝ) (t : List ℝ) : lmaxFrom m (x :: t) = lmaxFrom (max m x) t := by
  simp only [lmaxFrom, ltb_real, decide_eq_true_eq, max_def_lt]

theorem lmaxFrom_scale (c : ℝ) (hc : 0 ≤ c) (m : ℝ) (l : List ℝ) :
    lmaxFrom (c * m) (l.map (c * ·)) = c * lmaxFrom m l := by
  induction l generalizing m with
  | nil => rfl
  | cons x t ih => rw [List.map_cons, lmaxFrom_cons, lmaxFrom_cons, ← mul_max_of_nonneg m x hc, ih]

theorem chirp_scale (g fs f0 f1 sf : ℝ) (w : List ℝ) :
    chirp fs f0 f1 (g * sf) w = (chirp fs f0 f1 sf w).map (g * ·) := by
  simp only [chirp, List.map_zipWith]
  congr 1
  funext a b
  ring

/-- `w /= util.rms(w)` in `chirp` -/
theorem rmsL_normalized (w : List ℝ) (hw : rmsL w ≠ 0) : rmsL (w.map (· / rmsL w)) = 1 := by
  simp only [div_eq_inv_mul]
  rw [rmsL_scale, abs_inv, abs_of_nonneg (rmsL_nonneg w), inv_mul_cancel₀ hw]

theorem csdToSignal_smul (g : ℝ) (m : ℕ) (c : ℕ → Cx ℝ) (j : ℕ) :
    csdToSignal m (fun k => Cx.smul g (c k)) j = g * csdToSignal m c j := by
  simp only [csdToSignal, Cx.smul, sumTo_eq, mul_div_assoc, mul_assoc, ← mul_sub, ← Finset.mul_sum]
  ring

theorem Cx.smul_smul (a b : ℝ) (z : Cx ℝ) : Cx.smul (a * b) z = Cx.smul a (Cx.smul b z) := by
  simp only [Cx.smul, mul_assoc]

theorem clickSpec_scale (g : ℝ) (n : ℕ) (fs sf : ℝ) (klo khi k : ℕ) :
    clickSpec n fs (g * sf) klo khi k = Cx.smul g (clickSpec n fs sf klo khi k) := by
  have e : (if klo ≤ k ∧ k < khi then g * sf else nat 0) = g * if klo ≤ k ∧ k < khi then sf else nat 0 := by
    rw [mul_ite, nat_real, Nat.cast_zero, mul_zero]
  rw [clickSpec, e, Cx.smul_smul, clickSpec]

end Psi.Db

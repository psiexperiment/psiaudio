import PsiProofs.Helper.C19_Spec
/-!
# C19 — the package checker decides the specification

`PackageOK p ex` is the property for a whole package, with a list `ex` of excused loads; `checkEx`
decides it, and `checkExF = checkEx` is the form of the checker that is evaluated on a concrete table.
-/
namespace Psi.Scope

def ScopeOK (p : Package) (ex : List (Nat × Nat × Nat)) (mi : Nat) (m : List Scope) (i : Nat) (s : Scope) : Prop :=
  (∀ l ∈ s.loads, Resolves p.builtins m i l.1 ∨ (mi, i, l.1) ∈ ex) ∧
  (∀ c ∈ s.chains, ∀ w mo, BoundAt p.builtins m i c.base w →
      importedModule m i c.base w = some mo → AttrExists p.modobjs mo c.path)

def ModuleOK (p : Package) (ex : List (Nat × Nat × Nat)) (mi : Nat) (m : Module) : Prop :=
  WF m.scopes ∧
  (∀ (i : Nat) (s : Scope), m.scopes[i]? = some s → ScopeOK p ex mi m.scopes i s) ∧
  (∀ f ∈ m.fromImports, AttrExists p.modobjs f.1 [f.2.1])

/-- No code path can fail on an unresolved name (the excused loads apart). -/
def PackageOK (p : Package) (ex : List (Nat × Nat × Nat)) : Prop :=
  ∀ (mi : Nat) (m : Module), p.modules[mi]? = some m → ModuleOK p ex mi m

theorem allIdx_iff {α} (f : Nat → α → Bool) : ∀ (l : List α) (k : Nat),
    allIdx f k l = true ↔ ∀ (i : Nat) (a : α), l[i]? = some a → f (k + i) a = true
  | [], k => by simp [allIdx]
  | x :: xs, k => by
    rw [allIdx, Bool.and_eq_true, allIdx_iff f xs (k + 1)]
    constructor
    · rintro ⟨h0, h1⟩ (_ | i) a hi
      · cases hi; exact h0
      · rw [← Nat.add_assoc, Nat.add_right_comm]; exact h1 i a hi
    · intro h
      refine ⟨h 0 x rfl, fun i a hi => ?_⟩
      rw [Nat.add_right_comm, Nat.add_assoc]; exact h (i + 1) a hi

theorem chainOk_iff {mods : List ModObj} : ∀ (path : List Nat) (mo : Nat),
    chainOk mods mo path = true ↔ AttrExists mods mo path := by
  intro path
  induction path with
  | nil => intro mo; simp [chainOk]; exact .nil
  | cons a rest ih =>
    intro mo
    constructor
    · intro h
      unfold chainOk at h
      split at h
      · cases h
      · rename_i M hM
        simp only [Bool.and_eq_true] at h
        obtain ⟨ha, hr⟩ := h
        split at hr
        · rename_i mo' hl; exact .sub hM (mem_iff.1 ha) hl ((ih mo').1 hr)
        · rename_i hl; exact .leaf hM (mem_iff.1 ha) hl
    · intro h
      cases h with
      | leaf hM ha hl => simp [chainOk, hM, mem_iff.2 ha, hl]
      | sub hM ha hl hr => simp [chainOk, hM, mem_iff.2 ha, hl, (ih _).2 hr]

theorem excusedMem_iff {e : Nat × Nat × Nat} {ex : List (Nat × Nat × Nat)} :
    excusedMem e ex = true ↔ e ∈ ex := by
  induction ex with
  | nil => simp [excusedMem]
  | cons x xs ih =>
    simp only [excusedMem, Bool.or_eq_true, Bool.and_eq_true, Nat.beq_eq, ih, List.mem_cons, Prod.ext_iff,
      and_assoc]

theorem wfScope_iff {i : Nat} {s : Scope} : wfScope i s = true ↔ (s.kind ≠ .module → s.parent < i) := by
  unfold wfScope
  cases hk : s.kind <;> simp [Kind.isModule, Nat.blt_eq]

theorem resolves_iff {bi m i n} (wf : WF m) : (resolve bi m i n).isSome = true ↔ Resolves bi m i n := by
  constructor
  · intro h
    cases hr : resolve bi m i n with
    | none => rw [hr] at h; cases h
    | some w => exact ⟨w, resolve_sound hr⟩
  · rintro ⟨w, hw⟩
    rw [resolve_complete wf hw]; rfl

theorem chainCheck_iff {p : Package} {m : List Scope} {i : Nat} {c : Chain} (wf : WF m) :
    chainCheck p m i c = true ↔
      ∀ w mo, BoundAt p.builtins m i c.base w → importedModule m i c.base w = some mo →
        AttrExists p.modobjs mo c.path := by
  unfold chainCheck
  constructor
  · intro h w mo hw him
    rw [resolve_complete wf hw] at h
    simp only [him] at h
    exact (chainOk_iff _ _).1 h
  · intro h
    split
    · rfl
    · rename_i w hr
      split
      · rfl
      · rename_i mo him
        exact (chainOk_iff _ _).2 (h w mo (resolve_sound hr) him)

theorem wf_iff {m : List Scope} :
    (∀ (i : Nat) (s : Scope), m[i]? = some s → wfScope i s = true) ↔ WF m :=
  ⟨fun h j s hs => wfScope_iff.1 (h j s hs), fun h i s hs => wfScope_iff.2 (h i s hs)⟩

theorem wf_of_allIdx {m : List Scope} (h : allIdx wfScope 0 m = true) : WF m :=
  wf_iff.1 (by simpa [allIdx_iff] using h)

theorem checkScope_iff {p ex mi m i s} (wf : WF m) :
    checkScope p ex mi m i s = true ↔ (wfScope i s = true ∧ ScopeOK p ex mi m i s) := by
  unfold checkScope ScopeOK
  simp only [Bool.and_eq_true, List.all_eq_true, Bool.or_eq_true, resolves_iff wf, excusedMem_iff,
    chainCheck_iff wf, and_assoc]

theorem checkModule_iff {p ex mi} {m : Module} :
    checkModule p ex mi m = true ↔ ModuleOK p ex mi m := by
  unfold checkModule ModuleOK
  simp only [Bool.and_eq_true, allIdx_iff, Nat.zero_add, List.all_eq_true, chainOk_iff]
  constructor
  · rintro ⟨h1, h2⟩
    have wf : WF m.scopes := wf_iff.1 (fun i s hs => by
      have := h1 i s hs
      unfold checkScope at this
      simp only [Bool.and_eq_true] at this
      exact this.1.1)
    exact ⟨wf, fun i s hs => ((checkScope_iff wf).1 (h1 i s hs)).2, h2⟩
  · rintro ⟨wf, h1, h2⟩
    exact ⟨fun i s hs => (checkScope_iff wf).2 ⟨wf_iff.2 wf i s hs, h1 i s hs⟩, h2⟩

/-- The checker is sound and complete, for every package and excused list. -/
theorem checkEx_iff (p : Package) (ex : List (Nat × Nat × Nat)) :
    checkEx p ex = true ↔ PackageOK p ex := by
  unfold checkEx PackageOK
  simp only [allIdx_iff, Nat.zero_add, checkModule_iff]

/-! ### The same checker with bit masks

Kernel evaluation of `checkEx` on a real table spends nearly all its time in `mem` on long lists (builtins,
module globals, attributes of imported modules).  Here `mem n l` is bit `n` of `mask l`, computed once per
list on GMP `Nat` literals.  The functions in which `mem` occurs and the two levels of the check that call
them each have a masked twin with a lemma that it equals the model's; `resolveS` is handed the scope that
`allIdx` already holds. -/

def mask : List Nat → Nat
  | [] => 0
  | a :: as => 2 ^ a ||| mask as

/-- `m.testBit n`, written with the functions the kernel evaluates natively so that no instance is unfolded. -/
def bit (m n : Nat) : Bool := Nat.beq (Nat.land 1 (Nat.shiftRight m n)) 1

theorem bit_eq_testBit (m n : Nat) : bit m n = m.testBit n := by
  show (1 &&& m >>> n).beq 1 = (1 &&& m >>> n != 0)
  rw [Nat.one_and_eq_mod_two]
  rcases Nat.mod_two_eq_zero_or_one (m >>> n) with h | h <;> rw [h] <;> rfl

theorem bit_mask (n : Nat) (l : List Nat) : bit (mask l) n = mem n l := by
  rw [bit_eq_testBit]
  induction l with
  | nil => exact Nat.zero_testBit n
  | cons a as ih =>
    rw [mask, Nat.testBit_or, Nat.testBit_two_pow, ih, mem]
    congr 1
    rw [Bool.eq_iff_iff, decide_eq_true_iff, Nat.beq_eq, eq_comm]

def globalLookupF (bi : List Nat) (m : List Scope) (n : Nat) : Option Binding :=
  match m[0]? with
  | none => none
  | some g =>
    bif bit (mask g.bound) n then some .global
    else bif bit (mask bi) n then some .builtin
    else none

def enclosingF (bi : List Nat) (m : List Scope) (n : Nat) : Nat → Nat → Option Binding
  | 0, _ => none
  | fuel + 1, j =>
    match m[j]? with
    | none => none
    | some s =>
      match s.kind with
      | .module => if j = 0 then globalLookupF bi m n else none
      | .class =>
        bif bit (mask s.cells) n then some (.cell j)
        else if s.parent < j then enclosingF bi m n fuel s.parent else none
      | _ =>
        bif bit (mask s.bound) n then some (.enclosing j)
        else bif bit (mask s.globals) n then globalLookupF bi m n
        else if s.parent < j then enclosingF bi m n fuel s.parent else none

/-- `resolve bi m i n` for `m[i]? = some s`. -/
def resolveS (bi : List Nat) (m : List Scope) (s : Scope) (i n : Nat) : Option Binding :=
  bif bit (mask s.globals) n then globalLookupF bi m n
  else match s.kind with
    | .module => if i = 0 then globalLookupF bi m n else none
    | _ =>
      bif bit (mask s.nonlocals) n then
        (if s.parent < i then
          match enclosingF bi m n i s.parent with
          | some (.enclosing j) => some (.enclosing j)
          | _ => none
         else none)
      else bif bit (mask s.bound) n then some .local
      else if s.parent < i then enclosingF bi m n i s.parent else none

def chainOkF (mods : List ModObj) : Nat → List Nat → Bool
  | _, [] => true
  | mo, a :: rest =>
    match mods[mo]? with
    | none => false
    | some M =>
      bit (mask M.attrs) a &&
        (match lookup a M.submods with
         | some mo' => chainOkF mods mo' rest
         | none => true)

def checkScopeF (p : Package) (ex : List (Nat × Nat × Nat)) (mi : Nat) (m : List Scope) (i : Nat) (s : Scope) : Bool :=
  wfScope i s &&
  s.loads.all (fun l => (resolveS p.builtins m s i l.1).isSome || excusedMem (mi, i, l.1) ex) &&
  s.chains.all fun c =>
    match resolveS p.builtins m s i c.base with
    | none => true
    | some w =>
      match importedModule m i c.base w with
      | none => true
      | some mo => chainOkF p.modobjs mo c.path

def checkExF (p : Package) (ex : List (Nat × Nat × Nat)) : Bool :=
  allIdx (fun mi m =>
    allIdx (checkScopeF p ex mi m.scopes) 0 m.scopes &&
    m.fromImports.all (fun f => chainOkF p.modobjs f.1 [f.2.1])) 0 p.modules

/- In the lemmas below `simp only` turns the left side into the right side up to the names of the
   auxiliary `match` functions, which `rfl` unfolds. -/

theorem globalLookupF_eq (bi m n) : globalLookupF bi m n = globalLookup bi m n := by
  simp only [globalLookupF, globalLookup, bit_mask, cond_eq_ite]; rfl

theorem enclosingF_eq (bi m n) : ∀ fuel j, enclosingF bi m n fuel j = enclosing bi m n fuel j := by
  intro fuel
  induction fuel with
  | zero => intro j; rfl
  | succ fuel ih => intro j; simp only [enclosingF, enclosing, bit_mask, cond_eq_ite, globalLookupF_eq, ih]; rfl

theorem resolveS_eq {bi m i s} (n) (h : m[i]? = some s) : resolveS bi m s i n = resolve bi m i n := by
  simp only [resolveS, resolve, h, bit_mask, cond_eq_ite, globalLookupF_eq, enclosingF_eq]; rfl

theorem chainOkF_eq (mods) : ∀ path mo, chainOkF mods mo path = chainOk mods mo path := by
  intro path
  induction path with
  | nil => intro mo; rfl
  | cons a rest ih => intro mo; simp only [chainOkF, chainOk, bit_mask, ih]; rfl

theorem checkScopeF_eq {p ex mi m i s} (h : m[i]? = some s) :
    checkScopeF p ex mi m i s = checkScope p ex mi m i s := by
  simp only [checkScopeF, checkScope, resolveS_eq _ h, chainOkF_eq]; rfl

theorem allIdx_congr {α} {f g : Nat → α → Bool} (l : List α)
    (h : ∀ (i : Nat) (a : α), l[i]? = some a → f i a = g i a) : allIdx f 0 l = allIdx g 0 l := by
  rw [Bool.eq_iff_iff, allIdx_iff, allIdx_iff]
  exact forall_congr' fun i => forall_congr' fun a => imp_congr_right fun hi => by rw [Nat.zero_add, h i a hi]

theorem checkExF_eq (p : Package) (ex : List (Nat × Nat × Nat)) : checkExF p ex = checkEx p ex :=
  allIdx_congr _ fun mi m _ => by
    rw [checkModule, allIdx_congr m.scopes fun i s hs => checkScopeF_eq hs]
    simp only [chainOkF_eq]

end Psi.Scope

import PsiModel.StagesExt
import PsiProofs.Helper.C12_Lists
/-! Running a stage over a stream.  `stream_run_emits` is behind every chunk-invariance statement: a stage whose carry
state keeps following a function of the rest of the signal emits that function of the whole signal.  The lemmas are about
`StagesExt.run` (any error type); `Stages.runStage` is `run` at `E = Err` (`runStage_eq_run`). -/

namespace Psi.StagesExt
variable {σ I O E : Type} {step : σ → I → Except E (List O × σ)}

theorem run_cons {s s' : σ} {c : I} {o : List O} (h : step s c = .ok (o, s')) (cs : List I) :
    run step s (c :: cs) = (run step s' cs).map fun p => (o ++ p.1, p.2) := by
  simp only [run, h]
  cases run step s' cs <;> rfl

theorem run_cons_error {s : σ} {c : I} {e : E} (h : step s c = .error e) (cs : List I) :
    run step s (c :: cs) = .error e := by
  simp only [run, h]

theorem outs_cons {s s' : σ} {c : I} {o : List O} (h : step s c = .ok (o, s')) (cs : List I) :
    outs (run step s (c :: cs)) = (outs (run step s' cs)).map (o ++ ·) := by
  rw [run_cons h]
  cases run step s' cs <;> rfl

theorem run_cons_ok {s s'' : σ} {c : I} {cs : List I} {bs : List O} (h : run step s (c :: cs) = .ok (bs, s'')) :
    ∃ o s' os, step s c = .ok (o, s') ∧ run step s' cs = .ok (os, s'') ∧ bs = o ++ os := by
  cases hx : step s c with
  | error e => rw [run_cons_error hx] at h; cases h
  | ok p =>
    obtain ⟨o, s'⟩ := p
    rw [run_cons hx] at h
    cases hr : run step s' cs with
    | error e => rw [hr] at h; cases h
    | ok q =>
      obtain ⟨os, s2⟩ := q
      rw [hr] at h
      cases h
      exact ⟨o, s', os, rfl, hr, rfl⟩

/-- for a stage that makes up its state at the first send -/
theorem outs_run_congr {s s' : σ} (h : ∀ c, step s c = step s' c) (cs : List I) :
    outs (run step s cs) = outs (run step s' cs) := by
  cases cs with
  | nil => rfl
  | cons c cs => simp only [run, h c]

theorem run_append (xs ys : List I) {s s' : σ} {o : List O} (h : run step s xs = .ok (o, s')) :
    run step s (xs ++ ys) = (run step s' ys).map fun p => (o ++ p.1, p.2) := by
  induction xs generalizing s o with
  | nil =>
    cases h
    rw [List.nil_append]
    cases run step _ ys <;> rfl
  | cons x xs ih =>
    obtain ⟨o1, s1, o2, hx, hr, rfl⟩ := run_cons_ok h
    rw [List.cons_append, run_cons hx, ih hr]
    cases run step _ ys with
    | error e => rfl
    | ok p => simp only [Except.map, List.append_assoc]

theorem run_stateless (step : Unit → I → Except E (List O × Unit)) (f : I → List O)
    (h : ∀ c, step () c = .ok (f c, ())) (cs : List I) : run step () cs = .ok (cs.flatMap f, ()) := by
  induction cs with
  | nil => rfl
  | cons c cs ih => rw [run_cons (h c), ih]; rfl

theorem run_inv (Inv : σ → Prop) (hpres : ∀ st d o st', Inv st → step st d = .ok (o, st') → Inv st')
    (l : List I) {s s' : σ} {o : List O} (hs : Inv s) (h : run step s l = .ok (o, s')) : Inv s' := by
  induction l generalizing s o with
  | nil => cases h; exact hs
  | cons x l ih =>
    obtain ⟨o1, s1, o2, hx, hr, -⟩ := run_cons_ok h
    exact ih (hpres _ _ _ _ hs hx) hr

theorem run_forall (P : O → Prop) (hP : ∀ st d o st', step st d = .ok (o, st') → ∀ b ∈ o, P b)
    (l : List I) {s s' : σ} {o : List O} (h : run step s l = .ok (o, s')) : ∀ b ∈ o, P b := by
  induction l generalizing s o with
  | nil => cases h; exact fun _ hb => (List.not_mem_nil hb).elim
  | cons x l ih =>
    obtain ⟨o1, s1, o2, hx, hr, rfl⟩ := run_cons_ok h
    intro b hb
    rcases List.mem_append.mp hb with hb | hb
    · exact hP _ _ _ _ hx b hb
    · exact ih hr b hb

end Psi.StagesExt

namespace Psi.Stages
variable {α β ρ χ μ S τ σ I O : Type}

theorem runStage_eq_run (step : σ → I → Except Err (List O × σ)) (l : List I) (s : σ) :
    runStage step s l = StagesExt.run step s l := by
  induction l generalizing s with
  | nil => rfl
  | cons c l ih =>
    cases h : step s c with
    | error e => simp only [runStage, StagesExt.run, h]
    | ok p =>
      simp only [runStage, StagesExt.run, h, ih]
      cases StagesExt.run step p.2 l <;> rfl

def outputs (r : Except Err (List O × σ)) : Except Err (List O) :=
  match r with
  | .ok p => .ok p.1
  | .error e => .error e

theorem outputs_eq_outs (r : Except Err (List O × σ)) : outputs r = StagesExt.outs r := by
  cases r <;> rfl

theorem outputs_nil (step : σ → I → Except Err (List O × σ)) (s : σ) :
    outputs (runStage step s []) = .ok [] := rfl

theorem outputs_cons {step : σ → I → Except Err (List O × σ)} {s s' : σ} {c : I} {o : List O}
    (h : step s c = .ok (o, s')) (cs : List I) :
    outputs (runStage step s (c :: cs)) = (outputs (runStage step s' cs)).map (o ++ ·) := by
  simp only [runStage_eq_run, outputs_eq_outs]
  exact StagesExt.outs_cons h cs

theorem outputs_ok_iff {r : Except Err (List O × σ)} {bs : List O} :
    outputs r = .ok bs ↔ ∃ s', r = .ok (bs, s') := by
  cases r with
  | error e => simp [outputs]
  | ok p => obtain ⟨o, s'⟩ := p; simp [outputs]

theorem outputs_cons_ok {step : σ → I → Except Err (List O × σ)} {s : σ} {c : I} {cs : List I} {bs : List O}
    (h : outputs (runStage step s (c :: cs)) = .ok bs) :
    ∃ o s' bs', step s c = .ok (o, s') ∧ outputs (runStage step s' cs) = .ok bs' ∧ bs = o ++ bs' := by
  obtain ⟨s'', h⟩ := outputs_ok_iff.1 h
  rw [runStage_eq_run] at h
  obtain ⟨o, s', os, hx, hr, rfl⟩ := StagesExt.run_cons_ok h
  exact ⟨o, s', os, hx, outputs_ok_iff.2 ⟨s'', by rw [runStage_eq_run]; exact hr⟩, rfl⟩

theorem runStage_append {step : σ → I → Except Err (List O × σ)} (xs ys : List I) {s s' : σ} {o : List O}
    (h : runStage step s xs = .ok (o, s')) :
    runStage step s (xs ++ ys) = (runStage step s' ys).map fun p => (o ++ p.1, p.2) := by
  simp only [runStage_eq_run] at h ⊢
  exact StagesExt.run_append xs ys h

theorem stream_cons (ann : Ann ρ χ μ) (s : Int) (c : List α) (cs : List (List α)) :
    stream ann s (c :: cs) = { data := c, s0 := s, ann := ann } :: stream ann (s + c.length) cs := rfl

def outData (bs : List (PD β ρ χ μ)) : List β := (bs.map (·.data)).flatten

/-- `u` = `s0` units per emitted sample: 1, except `rms` whose `s0` field is a numerator over `n` -/
def Contig (u : Int) : Int → List (PD β ρ χ μ) → Prop
  | _, [] => True
  | t, b :: bs => b.s0 = t ∧ Contig u (t + u * b.len) bs

structure Emits (bs : List (PD β ρ χ μ)) (x : List β) (u t : Int) (a : Ann ρ χ μ) : Prop where
  data : outData bs = x
  contig : Contig u t bs
  ann : ∀ b ∈ bs, b.ann = a

theorem outData_cons (b : PD β ρ χ μ) (bs : List (PD β ρ χ μ)) : outData (b :: bs) = b.data ++ outData bs := rfl

theorem outData_single (b : PD β ρ χ μ) : outData [b] = b.data := List.append_nil _

theorem outData_append (o bs : List (PD β ρ χ μ)) : outData (o ++ bs) = outData o ++ outData bs := by
  simp only [outData, List.map_append, List.flatten_append]

theorem Emits.nil (u t : Int) (a : Ann ρ χ μ) : Emits ([] : List (PD β ρ χ μ)) [] u t a :=
  ⟨rfl, trivial, fun _ h => nomatch h⟩

theorem Emits.cons {bs : List (PD β ρ χ μ)} {x x' : List β} {u t t' : Int} {a : Ann ρ χ μ}
    (b : PD β ρ χ μ) (h : Emits bs x' u t' a) (hs : b.s0 = t) (ha : b.ann = a)
    (ht : t' = t + u * b.len) (hx : x = b.data ++ x') : Emits (b :: bs) x u t a := by
  subst ht hx
  refine ⟨by rw [outData_cons, h.data], ⟨hs, h.contig⟩, ?_⟩
  intro c hc
  rcases List.mem_cons.mp hc with rfl | hc
  · exact ha
  · exact h.ann c hc

theorem Emits.single (b : PD β ρ χ μ) (u : Int) : Emits [b] b.data u b.s0 b.ann :=
  Emits.cons b (Emits.nil u _ _) rfl rfl rfl (List.append_nil _).symm

/-- `if len(result): target(result)` -/
theorem Emits.ite (b : PD β ρ χ μ) (u : Int) (c : Prop) [Decidable c] (h : ¬ c → b.data = []) :
    Emits (if c then [b] else []) b.data u b.s0 b.ann := by
  by_cases hc : c
  · rw [if_pos hc]; exact Emits.single b u
  · rw [if_neg hc, h hc]; exact Emits.nil u _ _

theorem Contig.append {u : Int} : ∀ (o bs : List (PD β ρ χ μ)) (t : Int),
    Contig u t o → Contig u (t + u * (outData o).length) bs → Contig u t (o ++ bs) := by
  intro o
  induction o with
  | nil => intro bs t _ h; simpa [outData] using h
  | cons b o ih =>
    intro bs t h1 h2
    refine ⟨h1.1, ih bs _ h1.2 ?_⟩
    rw [outData_cons, List.length_append, Int.natCast_add, Int.mul_add, ← Int.add_assoc] at h2
    exact h2

theorem Emits.append {o bs : List (PD β ρ χ μ)} {x1 x' : List β} {u t : Int} {a : Ann ρ χ μ}
    (h1 : Emits o x1 u t a) (h2 : Emits bs x' u (t + u * x1.length) a) : Emits (o ++ bs) (x1 ++ x') u t a := by
  refine ⟨by rw [outData_append, h1.data, h2.data],
    Contig.append o bs t h1.contig (by rw [h1.data]; exact h2.contig), ?_⟩
  intro b hb
  rcases List.mem_append.mp hb with hb | hb
  · exact h1.ann b hb
  · exact h2.ann b hb

theorem stream_length (ann : Ann ρ χ μ) : ∀ (cs : List (List α)) (s : Int), (stream ann s cs).length = cs.length := by
  intro cs
  induction cs with
  | nil => intro s; rfl
  | cons c cs ih => intro s; simp [stream, ih]

theorem stream_append (ann : Ann ρ χ μ) : ∀ (xs ys : List (List α)) (s : Int),
    stream ann s (xs ++ ys) = stream ann s xs ++ stream ann (s + xs.flatten.length) ys := by
  intro xs
  induction xs with
  | nil => intro ys s; simp [stream]
  | cons x xs ih =>
    intro ys s
    simp only [List.cons_append, stream, ih, List.flatten_cons, List.length_append]
    congr 3
    omega

theorem stream_emits (ann : Ann ρ χ μ) : ∀ (cs : List (List α)) (s : Int),
    Emits (stream ann s cs) cs.flatten 1 s ann := by
  intro cs
  induction cs with
  | nil => intro s; exact Emits.nil 1 s ann
  | cons c cs ih =>
    intro s
    exact Emits.cons _ (ih (s + c.length)) rfl rfl (by simp [PD.len]) (by simp)

/-- A stage that follows a whole-signal function is chunk-invariant.  `R st s t F` relates a carry state to the
position `s` of the next input sample, the position `t` of the next output sample and the function `F` giving what is
still to be emitted from the rest of the signal.  One `send` of a chunk `c` must emit a prefix `x1` of `F (c ++ ·)` and
leave a state related to the remaining function.  `t'` comes with an equation so that a caller can give it in the form
its `R` uses. -/
theorem stream_run_emits {step : σ → PD α ρ χ μ → Except Err (List (PD β ρ χ μ) × σ)} {ann a : Ann ρ χ μ} {u : Int}
    (R : σ → Int → Int → (List α → List β) → Prop)
    (hnil : ∀ {st s t F}, R st s t F → F [] = [])
    (hstep : ∀ {st s t F} (c : List α), R st s t F → ∃ o st' x1 F' t',
      step st { data := c, s0 := s, ann := ann } = .ok (o, st') ∧ Emits o x1 u t a
        ∧ (∀ x, F (c ++ x) = x1 ++ F' x) ∧ t' = t + u * x1.length ∧ R st' (s + c.length) t' F') :
    ∀ (cs : List (List α)) {st : σ} {s t : Int} {F : List α → List β}, R st s t F →
      ∃ bs, outputs (runStage step st (stream ann s cs)) = .ok bs ∧ Emits bs (F cs.flatten) u t a := by
  intro cs
  induction cs with
  | nil => intro st s t F h; exact ⟨[], rfl, by rw [List.flatten_nil, hnil h]; exact Emits.nil u _ a⟩
  | cons c cs ih =>
    intro st s t F h
    obtain ⟨o, st', x1, F', t', hs, ho, hF, rfl, hR⟩ := hstep c h
    obtain ⟨bs, hr, he⟩ := ih hR
    refine ⟨o ++ bs, by rw [stream_cons, outputs_cons hs, hr]; rfl, ?_⟩
    rw [List.flatten_cons, hF]
    exact ho.append he

theorem Emits.catAll_ok {bs : List (PD β ρ χ μ)} {x : List β} {t : Int} {a : Ann ρ χ μ}
    (h : Emits bs x 1 t a) (hne : bs ≠ []) : catAll bs = .ok { data := x, s0 := t, ann := a } := by
  have key : ∀ (l : List (PD β ρ χ μ)) (acc : PD β ρ χ μ), Contig 1 (acc.s0 + acc.len) l →
      l.foldlM cat acc = .ok { acc with data := acc.data ++ outData l } := by
    intro l
    induction l with
    | nil => intro acc _; rw [outData, List.map_nil, List.flatten_nil, List.append_nil]; rfl
    | cons c l ih =>
      intro acc hc
      have hcat : cat acc c = .ok { acc with data := acc.data ++ c.data } := by
        unfold cat; rw [if_pos hc.1]
      rw [List.foldlM_cons, hcat]
      refine (ih { acc with data := acc.data ++ c.data } ?_).trans ?_
      · have := hc.2
        rw [Int.one_mul, Int.add_assoc, ← Int.natCast_add] at this
        simpa only [PD.len, List.length_append] using this
      · rw [outData_cons, List.append_assoc]
  obtain ⟨hd, hc, ha⟩ := h
  cases bs with
  | nil => exact absurd rfl hne
  | cons b bs =>
    obtain ⟨d, s0, an⟩ := b
    have hb0 : s0 = t := hc.1
    have hba : an = a := ha _ (List.mem_cons_self ..)
    subst hb0 hba
    rw [catAll, key bs _ (by simpa only [Int.one_mul] using hc.2)]
    rw [outData_cons] at hd
    rw [← hd]
end Psi.Stages

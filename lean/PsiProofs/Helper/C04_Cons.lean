import PsiProofs.Helper.C02_Timeline
/-! Conservation: kept(k) + trials(k) = requested(k), through ticks, pause and resume. -/
namespace Psi.Queue

/-- non-cancelled presentations of `key` currently logged -/
def keptOf (s : QState) (key : Nat) : Int := ((s.generated.filter (fun i => i.key == key)).length : Nat)

def Cons (s : QState) : Prop :=
  ∀ (key : Nat) (e : Entry), s.data[key]? = some e → keptOf s key + e.trials = e.requested

theorem setTrials_get (d : List Entry) (key k' : Nat) (f : Int → Int) :
    (setTrials d key f)[k']? =
      if key = k' then (d[k']?).map (fun e => { e with trials := f e.trials }) else d[k']? := by
  unfold setTrials
  rw [List.getElem?_modify]
  split
  · simp
  · simp

theorem nextTrial_data {s s1 : QState} (h : nextTrial s = .ok (some s1)) :
    ∃ info : Info, s1.generated = s.generated ++ [info] ∧
      ∀ k', s1.data[k']? =
        if info.key = k' then (s.data[k']?).map (fun e => { e with trials := e.trials - 1, dpos := e.dpos + 1 })
        else s.data[k']? := by
  obtain ⟨key, sa, sb, e, d, hk, hd, he, _, _, rfl⟩ := nextTrial_some h
  have f1 := nextKey_frame hk
  have f2 := decrementKey_frame hd
  refine ⟨mkInfo sb key e d, ?_, ?_⟩
  · simp only; rw [f2]; simp only; rw [f1]
  · intro k'
    simp only [mkInfo]
    rw [List.getElem?_modify, f2]
    simp only
    rw [setTrials_get, f1]
    simp only
    by_cases hkk : key = k'
    · subst hkk
      simp only [if_true]
      cases s.data[key]? with
      | none => simp
      | some e0 => simp
    · simp [hkk]

theorem Cons_nextTrial {s s1 : QState} (hc : Cons s) (h : nextTrial s = .ok (some s1)) : Cons s1 := by
  obtain ⟨info, hg, hd⟩ := nextTrial_data h
  intro key e he
  rw [hd key] at he
  unfold keptOf
  rw [hg, List.filter_append]
  by_cases hk : info.key = key
  · simp only [hk, if_true] at he
    obtain ⟨e0, h0, rfl⟩ := Option.map_eq_some_iff.1 he
    have := hc key e0 h0
    unfold keptOf at this
    simp [hk] at this ⊢
    omega
  · simp only [hk, if_false] at he
    have := hc key e he
    unfold keptOf at this
    have hk' : (info.key == key) = false := by simpa using hk
    simp [hk'] at this ⊢
    exact this

theorem Cons_of_same {s s' : QState} (hc : Cons s) (hd : s'.data = s.data) (hg : s'.generated = s.generated) :
    Cons s' := by
  intro key e he
  rw [hd] at he
  have := hc key e he
  unfold keptOf at this ⊢
  rw [hg]; exact this

theorem Cons_tick {s s' : QState} {c : Cell} (hc : Cons s) (h : tick s = .ok (c, s')) : Cons s' :=
  tickD_preserves (d := true)
    (fun hb hc => Cons_of_same hc (by rw [hb]) (by rw [hb]))
    Cons_nextTrial hc h

theorem foldl_setTrials_get (keys : List Nat) (d : List Entry) (k' : Nat) :
    (keys.foldl (fun d k => setTrials d k (· + 1)) d)[k']? =
      (d[k']?).map (fun e => { e with trials := e.trials + ((keys.count k' : Nat) : Int) }) := by
  induction keys generalizing d with
  | nil =>
    simp only [List.foldl_nil, List.count_nil]
    generalize d[k']? = o
    cases o <;> simp
  | cons k ks ih =>
    simp only [List.foldl_cons]
    rw [ih, setTrials_get]
    by_cases h : k = k'
    · subst h
      generalize d[k]? = o
      cases o with
      | none => simp
      | some e => simp; omega
    · simp [h]

theorem foldl_setTrials_length (keys : List Nat) (d : List Entry) :
    (keys.foldl (fun d k => setTrials d k (· + 1)) d).length = d.length := by
  induction keys generalizing d with
  | nil => rfl
  | cons k ks ih => simp only [List.foldl_cons]; rw [ih]; simp [setTrials]

theorem split_count (g : List Info) (P : Info → Bool) (k' : Nat) :
    ((g.filter (fun i => !P i)).filter (fun i => i.key == k')).length +
      ((g.filter P).filter (fun i => i.key == k')).length = (g.filter (fun i => i.key == k')).length := by
  simp only [← List.countP_eq_length_filter]
  rw [List.countP_eq_countP_filter_add g _ P, Nat.add_comm]

theorem count_requeue (g : List Info) (P : Info → Bool) (k' : Nat) :
    ((g.reverse.filter P).map (·.key)).count k' = ((g.filter P).filter (fun i => i.key == k')).length := by
  rw [List.count_eq_countP, List.countP_map, List.countP_eq_length_filter, List.filter_reverse,
    List.filter_reverse, List.length_reverse]
  congr 1

/-- keys whose trials `requeue(m)` restores (latest trial first) -/
def toRequeue (m : Int) (s : QState) : List Nat := (s.generated.reverse.filter (endsAfter m)).map (·.key)

theorem requeue_fields (m : Int) (s : QState) :
    (requeue m s).data = (toRequeue m s).foldl (fun d k => setTrials d k (· + 1)) s.data ∧
    (requeue m s).generated = s.generated.filter (fun i => !endsAfter m i) ∧
    (requeue m s).removed = s.removed ∧ (requeue m s).added = s.added ∧
    (requeue m s).samples = s.samples ∧ (requeue m s).source = s.source ∧
    (requeue m s).delaySamples = s.delaySamples ∧ (requeue m s).paused = s.paused ∧
    (requeue m s).kind = s.kind := by
  unfold requeue toRequeue
  simp only
  split <;> (try split) <;> simp only [and_self]

theorem cancel_fields (m : Int) (s : QState) :
    (cancel m s).data = s.data ∧ (cancel m s).generated = s.generated ∧
    (cancel m s).removed = s.removed ++ ((s.generated.reverse.filter (endsAfter m)).map (·.uid)) ∧
    (cancel m s).added = s.added ∧ (cancel m s).samples = s.samples ∧ (cancel m s).source = none ∧
    (cancel m s).delaySamples = 0 ∧ (cancel m s).paused = s.paused ∧ (cancel m s).kind = s.kind := by
  simp [cancel]

/-- every field `pause(m)` writes, in terms of the state before; the `Bool` is "raised ValueError" -/
theorem pause_fields (m : Int) (s : QState) :
    (pause (some m) s).1.data = (toRequeue m s).foldl (fun d k => setTrials d k (· + 1)) s.data ∧
    (pause (some m) s).1.generated = s.generated.filter (fun i => !endsAfter m i) ∧
    (pause (some m) s).1.removed = s.removed ++ ((s.generated.reverse.filter (endsAfter m)).map (·.uid)) ∧
    (pause (some m) s).1.added = s.added ∧ (pause (some m) s).1.source = none ∧
    (pause (some m) s).1.delaySamples = 0 ∧ (pause (some m) s).1.paused = true ∧
    (pause (some m) s).1.samples = (if m > s.samples then s.samples else m) ∧
    ((pause (some m) s).2 = true ↔ m > s.samples) := by
  obtain ⟨hd, hg, hr, ha, hs, hsrc, hdl, hp, _⟩ := requeue_fields m (cancel m { s with paused := true })
  have hs' : (requeue m (cancel m { s with paused := true })).samples = s.samples := hs
  unfold pause
  simp only [hs']
  split
  · rename_i h
    exact ⟨hd, hg, hr, ha, hsrc, hdl, hp, hs', fun _ => h, fun _ => rfl⟩
  · rename_i h
    exact ⟨hd, hg, hr, ha, hsrc, hdl, hp, rfl, fun h' => Bool.noConfusion h', fun h' => absurd h' h⟩

theorem Cons_requeued (m : Int) {s s' : QState} (hc : Cons s)
    (hd : s'.data = (toRequeue m s).foldl (fun d k => setTrials d k (· + 1)) s.data)
    (hg : s'.generated = s.generated.filter (fun i => !endsAfter m i)) : Cons s' := by
  intro key e he
  rw [hd, foldl_setTrials_get] at he
  obtain ⟨e0, h0, rfl⟩ := Option.map_eq_some_iff.1 he
  have h1 := hc key e0 h0
  unfold keptOf at h1 ⊢
  rw [hg]
  have h2 := split_count s.generated (endsAfter m) key
  have h3 := count_requeue s.generated (endsAfter m) key
  unfold toRequeue
  simp only
  rw [h3, ← h1, ← h2, Int.natCast_add, Int.add_assoc, Int.add_comm e0.trials]

theorem Cons_pause (m : Option Int) {s : QState} (hc : Cons s) : Cons (pause m s).1 := by
  cases m with
  | none => exact Cons_of_same hc rfl rfl
  | some m =>
    obtain ⟨hd, hg, _⟩ := pause_fields m s
    exact Cons_requeued m hc hd hg

theorem Cons_resume (m : Option Int) {s : QState} (hc : Cons s) : Cons (resume m s) := by
  unfold resume
  cases m <;> exact Cons_of_same hc rfl rfl

end Psi.Queue

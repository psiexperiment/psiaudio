import PsiProofs.Helper.C11_ConcatG
/-! Cut lists, the pieces they produce, and `concat` of slabs cut from one array. -/
namespace Psi.PData

/-- the unit-step slices `[:k₁], [k₁:k₂], …, [kₘ:]` produced by a list of cuts. -/
def cutSlicesFrom (start : Option Int) : List Int → List PySlice
  | [] => [⟨start, none, none⟩]
  | k :: ks => ⟨start, some k, none⟩ :: cutSlicesFrom (some k) ks

def cutSlices (ks : List Int) : List PySlice := cutSlicesFrom none ks

/-- a cut position as `slice.indices` clamps it on an axis of length `n`. -/
def cutNat (n : Nat) (k : Int) : Nat := (clampPos k n).toNat

def pieceBounds (lo : Nat) : List Nat → Nat → List (Nat × Nat)
  | [], n => [(lo, n)]
  | b :: bs, n => (lo, b) :: pieceBounds b bs n

/-- `lo ≤ b₁ ≤ … ≤ bₘ ≤ n` -/
def chainOK (lo : Nat) : List Nat → Nat → Prop
  | [], n => lo ≤ n
  | b :: bs, n => lo ≤ b ∧ chainOK b bs n

theorem chainOK_le : ∀ (bs : List Nat) (lo n : Nat), chainOK lo bs n → lo ≤ n
  | [], _, _, h => h
  | b :: bs, _, n, h => Nat.le_trans h.1 (chainOK_le bs b n h.2)

theorem cutSlices_bounds (n : Nat) : ∀ (ks : List Int) (st : Option Int),
    (cutSlicesFrom st ks).map (fun s => (startNat s n, stopNat s n)) =
      pieceBounds (match st with | none => 0 | some v => cutNat n v) (ks.map (cutNat n)) n
  | [], st => by cases st <;> simp [cutSlicesFrom, pieceBounds, startNat, stopNat, cutNat]
  | k :: ks, st => by
    simp only [cutSlicesFrom, List.map_cons, pieceBounds, cutSlices_bounds n ks (some k)]
    cases st <;> simp [startNat, stopNat, cutNat]

theorem cutSlices_step : ∀ (ks : List Int) (st : Option Int), ∀ s ∈ cutSlicesFrom st ks, s.step = none
  | [], st, s, h => by simp [cutSlicesFrom] at h; subst h; rfl
  | k :: ks, st, s, h => by
    simp only [cutSlicesFrom, List.mem_cons] at h
    rcases h with rfl | h
    · rfl
    · exact cutSlices_step ks _ s h

theorem chainOK_of_sorted (n : Nat) : ∀ (ks : List Int) (lo : Nat), lo ≤ n → (∀ k ∈ ks, lo ≤ cutNat n k) →
    (ks.map (clampPos · n)).Pairwise (· ≤ ·) → chainOK lo (ks.map (cutNat n)) n
  | [], _, h, _, _ => h
  | k :: ks, lo, _, hlo, hs => by
    simp only [List.map_cons, List.pairwise_cons, List.mem_map, forall_exists_index, and_imp,
      forall_apply_eq_imp_iff₂] at hs
    refine ⟨hlo k (by simp), chainOK_of_sorted n ks _ (clampPos_toNat_le k n) ?_ hs.2⟩
    intro k' hk'
    have := hs.1 k' hk'
    unfold cutNat; omega

theorem pieceBounds_tile : ∀ (bs : List Nat) (lo n : Nat), chainOK lo bs n →
    ((pieceBounds lo bs n).map fun p => List.range' p.1 (p.2 - p.1)).flatten = List.range' lo (n - lo)
  | [], _, _, _ => by simp [pieceBounds]
  | b :: bs, lo, n, h => by
    have hb := chainOK_le bs b n h.2
    have h1 := h.1
    simp only [pieceBounds, List.map_cons, List.flatten_cons, pieceBounds_tile bs b n h.2]
    have : b = lo + (b - lo) := by omega
    conv => lhs; arg 2; rw [this]
    rw [List.range'_append_1]
    congr 1; omega

theorem pieceBounds_ne_nil (lo : Nat) (bs : List Nat) (n : Nat) : pieceBounds lo bs n ≠ [] := by
  cases bs <;> simp [pieceBounds]

theorem checkS0_pieces (s0 : Int) (mk : Nat × Nat → PD) (hs : ∀ p, (mk p).s0 = s0 + p.1)
    (hn : ∀ p, (mk p).nTime = p.2 - p.1) : ∀ (bs : List Nat) (lo n : Nat), chainOK lo bs n →
    checkS0 (s0 + lo) ((pieceBounds lo bs n).map mk) = true
  | [], lo, n, _ => by simp [pieceBounds, checkS0, hs]
  | b :: bs, lo, n, h => by
    have := checkS0_pieces s0 mk hs hn bs b n h.2
    have h1 := h.1
    simp only [pieceBounds, List.map_cons, checkS0, hs, hn, beq_self_eq_true, Bool.true_and]
    have e : s0 + (lo : Int) + ((b - lo : Nat) : Int) = s0 + (b : Int) := by omega
    rw [e]; exact this

theorem listTake_flatten {α} (l : List α) (pss : List (List Nat)) :
    listTake l pss.flatten = (pss.map (listTake l)).flatten := by
  simp only [listTake, List.filterMap_flatten]
  rfl

/-- an array cut out of `a` along one axis: rows `ps` of the axis with stride `st`, outer axes `P`, inner axes `Q`. -/
def slab (pre post : List Nat) (P Q : List (List Nat)) (st : Nat) (a : PD) (ps : List Nat) (s0 : Int) (ch : Chan)
    (md : Meta) : PD :=
  ⟨pre ++ [ps.length] ++ post, pick a.data (cart (P ++ ps.map (· * st) :: Q)), s0, a.fs, ch, md⟩

theorem concat_slabs {β} (dim : Dim) (d : Nat) (pre post : List Nat) (P Q : List (List Nat)) (st : Nat) (a : PD)
    (hP : P.map List.length = pre) (hQ : Q.map List.length = post) (hk : dim.k = post.length + 1) (hkd : dim.k ≤ d)
    (mk : β → PD) (rows : β → List Nat) (x0 : β) (xs : List β)
    (hsd : ∀ x, ((mk x).shape, (mk x).data) =
      (pre ++ [(rows x).length] ++ post, pick a.data (cart (P ++ (rows x).map (· * st) :: Q))))
    (hwf : ∀ b ∈ (x0 :: xs).map mk, WF b) (hnd : ∀ b ∈ (x0 :: xs).map mk, b.ndim = d)
    (hj : Joinable dim (mk x0) (xs.map mk)) :
    concat ((x0 :: xs).map mk) dim =
      construct (pre ++ [((x0 :: xs).map rows).flatten.length] ++ post)
        (pick a.data (cart (P ++ ((x0 :: xs).map rows).flatten.map (· * st) :: Q))) (mk x0).fs (mk x0).s0
        (joinChan dim (mk x0) ((x0 :: xs).map mk)) (joinMeta dim (mk x0) ((x0 :: xs).map mk)) := by
  apply concat_eval dim (mk x0) (xs.map mk) d hwf hnd hkd hj
  have := npConcat_slabs pre post P Q hP hQ (fun o => a.data.getD o 0) ((rows x0).map (· * st))
    (xs.map fun x => (rows x).map (· * st))
  simp only [List.map_cons, List.map_map, Function.comp_def, List.length_map, pick, List.length_flatten, hsd, hk] at this ⊢
  rw [this]
  simp [List.map_flatten, Function.comp_def]

theorem pieceBounds_mem : ∀ (bs : List Nat) (lo n : Nat), chainOK lo bs n →
    ∀ p ∈ pieceBounds lo bs n, lo ≤ p.1 ∧ p.1 ≤ p.2 ∧ p.2 ≤ n
  | [], lo, n, h, p, hp => by simp [pieceBounds] at hp; subst hp; exact ⟨Nat.le_refl _, h, Nat.le_refl _⟩
  | b :: bs, lo, n, h, p, hp => by
    simp only [pieceBounds, List.mem_cons] at hp
    rcases hp with rfl | hp
    · exact ⟨Nat.le_refl _, h.1, chainOK_le bs b n h.2⟩
    · have := pieceBounds_mem bs b n h.2 p hp
      exact ⟨Nat.le_trans h.1 this.1, this.2⟩

theorem pieceBounds_cons (lo : Nat) (bs : List Nat) (n : Nat) :
    ∃ hi rest, pieceBounds lo bs n = (lo, hi) :: rest := by
  cases bs <;> simp [pieceBounds]

theorem tile_listTake {α} (l : List α) (f : Nat × Nat → List α)
    (hf : ∀ p, f p = listTake l (List.range' p.1 (p.2 - p.1))) (bs : List Nat) (n : Nat) (hc : chainOK 0 bs n) :
    ((pieceBounds 0 bs n).map f).flatten = listTake l (List.range' 0 (n - 0)) := by
  have : f = fun p => listTake l (List.range' p.1 (p.2 - p.1)) := funext hf
  rw [this, ← pieceBounds_tile bs 0 n hc, listTake_flatten, List.map_map]
  rfl

/-- `x[..., s]` (time), `x[s]` / `x[:, s]` (channel of a 2-D / 3-D array), `x[s]` (epoch). -/
def cutIndex (nd : Nat) (dim : Dim) (s : PySlice) : Index :=
  match dim, nd with
  | .time, _ => .tuple [.ellipsis, .slice s]
  | .channel, 3 => .tuple [.slice .all, .slice s]
  | .channel, _ => .one (.slice s)
  | .epoch, _ => .one (.slice s)

/-- `n_time`, `shape[-2]`, `shape[-3]` -/
def axisLen (a : PD) : Dim → Nat
  | .time => a.nTime
  | .channel => shapeM2 a.shape
  | .epoch => shapeM3 a.shape

theorem cutSlices_length : ∀ (ks : List Int) (st : Option Int), (cutSlicesFrom st ks).length = ks.length + 1
  | [], _ => rfl
  | k :: ks, _ => by simp [cutSlicesFrom, cutSlices_length ks]

theorem cutSlices_pieces {β} (n : Nat) (ks : List Int) (mk : Nat × Nat → β) :
    (cutSlices ks).map (fun s => mk (startNat s n, stopNat s n)) = (pieceBounds 0 (ks.map (cutNat n)) n).map mk := by
  have := cutSlices_bounds n ks none
  simp only at this
  rw [← this, List.map_map]; rfl

theorem getArr_iff (a : PD) (index : Index) (r : PD) :
    getArr Fixes.all a index = .ok r ↔ getitem a index = .ok (.arr r) := by
  unfold getArr getitem
  cases h : getitemG Fixes.all a index with
  | error e => simp
  | ok res => cases res <;> simp

theorem WF.construct_eq {b : PD} (h : WF b) :
    construct b.shape b.data b.fs b.s0 b.channel b.metadata = .ok b :=
  construct_ok _ _ _ _ _ _ (fun h1 => ⟨_, h.chan_many h1⟩) (fun h2 => ⟨_, h.meta_many h2⟩)

/-- the rows `ps` of axis `dim` of `a` as an array of their own: a time piece starts `x` samples later, a channel /
epoch piece carries the labels / metadata of its rows. -/
def cutPiece (dim : Dim) (pre post : List Nat) (P Q : List (List Nat)) (st : Nat) (a : PD) (ps : List Nat) (x : Nat) : PD :=
  slab pre post P Q st a ps (if dim = .time then a.s0 + x else a.s0)
    (if dim = .channel then .many (listTake (chanList a) ps) else a.channel)
    (if dim = .epoch then .many (listTake (metaList a) ps) else a.metadata)

/-- Split + concat along one axis: `a` has `n` rows of stride `st` on the axis `dim`, outer axes `P`, inner axes `Q`.
`np.concatenate` of slabs is the slab of the joined rows (`concat_slabs`), the rows of the pieces tile `[0, n)`
(`pieceBounds_tile`), and the pieces' start samples, labels and metadata are what `concat` checks and joins. -/
theorem split_axis (dim : Dim) (a : PD) (nd : Nat) (pre post : List Nat) (P Q : List (List Nat)) (st n : Nat)
    (hP : P.map List.length = pre) (hQ : Q.map List.length = post) (hk : dim.k = post.length + 1)
    (hd : (pre ++ [0] ++ post).length = nd)
    (hwf : ∀ ps : List Nat, (∀ q ∈ ps, q < n) → ∀ x, WF (cutPiece dim pre post P Q st a ps x))
    (hget : ∀ s : PySlice, s.step = none → getitem a (cutIndex nd dim s) = .ok (.arr (cutPiece dim pre post P Q st a
      (List.range' (startNat s n) (stopNat s n - startNat s n)) (startNat s n))))
    (hfull : cutPiece dim pre post P Q st a (List.range n) 0 = a)
    (ks : List Int) (hs : (ks.map (clampPos · n)).Pairwise (· ≤ ·)) :
    ∃ pieces, (cutSlices ks).mapM (fun s => getArr Fixes.all a (cutIndex nd dim s)) = .ok pieces ∧
      pieces.length = ks.length + 1 ∧ concat pieces dim = .ok a := by
  let mk := fun p : Nat × Nat => cutPiece dim pre post P Q st a (List.range' p.1 (p.2 - p.1)) p.1
  have hc := chainOK_of_sorted n ks 0 (Nat.zero_le _) (fun _ _ => Nat.zero_le _) hs
  have hget' : ∀ s ∈ cutSlices ks, getArr Fixes.all a (cutIndex nd dim s) = .ok (mk (startNat s n, stopNat s n)) :=
    fun s hs => (getArr_iff ..).2 (hget s (cutSlices_step ks none s hs))
  refine ⟨_, mapM_eq_map _ _ _ hget', by rw [List.length_map]; exact cutSlices_length ks none, ?_⟩
  rw [cutSlices_pieces n ks mk]
  generalize ks.map (cutNat n) = bs at hc
  obtain ⟨hi, pr, hp⟩ := pieceBounds_cons 0 bs n
  have hmem := pieceBounds_mem bs 0 n hc
  have htile := pieceBounds_tile bs 0 n hc
  rw [hp] at hmem htile
  have hwf' : ∀ b ∈ ((0, hi) :: pr).map mk, WF b := List.forall_mem_map.2 fun p hp' =>
    hwf _ (fun q hq => by have := hmem p hp'; simp only [List.mem_range'_1] at hq; omega) _
  have hnd : ∀ b ∈ ((0, hi) :: pr).map mk, b.ndim = nd := List.forall_mem_map.2 fun p _ => by
    simp only [mk, cutPiece, slab, PD.ndim] at hd ⊢
    simpa using hd
  have hj : Joinable dim (mk (0, hi)) (pr.map mk) := by
    refine ⟨?_, ?_, ?_, ?_⟩
    · exact List.forall_mem_map.2 fun _ _ => rfl
    · intro hdt
      have hpost : post = [] := by
        subst hdt; have h' := hk; simp only [Dim.k] at h'; exact List.eq_nil_of_length_eq_zero (by omega)
      have := checkS0_pieces a.s0 mk (fun p => by simp [mk, cutPiece, slab, hdt])
        (fun p => by simp [mk, cutPiece, slab, PD.nTime, hpost]) bs 0 n hc
      rw [hp] at this
      simp only [List.map_cons, checkS0, Bool.and_eq_true] at this
      have e : (mk (0, hi)).s0 = a.s0 + ((0 : Nat) : Int) := by simp [mk, cutPiece, slab]
      rw [e]; exact this.2
    · exact fun hdc => List.forall_mem_map.2 fun p _ => by simp only [mk, cutPiece, slab, if_neg hdc]
    · exact fun hde => List.forall_mem_map.2 fun p _ => by simp only [mk, cutPiece, slab, if_neg hde]
  rw [hp, concat_slabs dim nd pre post P Q st a hP hQ hk (by simp at hd; omega) mk
    (fun p => List.range' p.1 (p.2 - p.1)) (0, hi) pr (fun _ => rfl) hwf' hnd hj, htile,
    List.length_range', Nat.sub_zero, ← List.range_eq_range', ← hp]
  -- the joined piece is the piece of all rows, which `PipelineData.__new__` accepts and which is `a`
  refine Eq.trans ?_ ((hwf (List.range n) (fun q hq => List.mem_range.1 hq) 0).construct_eq.trans (congrArg _ hfull))
  simp only [cutPiece, slab, List.length_range]
  congr 1
  · unfold joinChan; split
    · rename_i h
      rw [List.map_map, tile_listTake (chanList a) _ (fun p => by simp [mk, cutPiece, slab, chanList, h]) bs n hc,
        Nat.sub_zero, List.range_eq_range']
    · rename_i h; simp only [mk, cutPiece, slab, if_neg h]
  · unfold joinMeta; split
    · rename_i h
      rw [List.map_map, tile_listTake (metaList a) _ (fun p => by simp [mk, cutPiece, slab, metaList, h]) bs n hc,
        Nat.sub_zero, List.range_eq_range']
    · rename_i h; simp only [mk, cutPiece, slab, if_neg h]

end Psi.PData

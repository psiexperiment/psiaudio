import PsiProofs.Helper.C03_View
/-!
What is common to the per-policy invariants: a loaded queue, the ledger
"remaining = requested − presented", closed forms of `decrement_key`, a log that grows by one entry,
and one trial of a queue with a completion flag (interleaved, blocked random).
-/
namespace Psi.Queue

/-- A queue as it is after `append`ing ≥ 1 stimuli (trial counts ≥ 1, waveforms of ≥ 1 sample,
non-empty cycles of delays ≥ 0) and before anything was requested. Keys are insertion indices,
so the ordering is `0, 1, …, n-1`. -/
structure Loaded (s : QState) : Prop where
  npos : s.data ≠ []
  ordering : s.ordering = List.range s.data.length
  entries : ∀ (i : Nat) (e : Entry), s.data[i]? = some e →
    0 < e.len ∧ 1 ≤ e.trials ∧ e.delays ≠ [] ∧ ∀ d ∈ e.delays, 0 ≤ d
  cursor : s.cursor = -1
  complete : s.complete = false
  block : s.block = []
  added : s.added = []
  source : s.source = none
  empty : s.empty = false
  gsize : s.kind = .grouped → 1 ≤ s.gsize

theorem Loaded.wf {s : QState} (h : Loaded s) : WF s :=
  ⟨fun i e he => (h.entries i e he).1, by simp [h.source]⟩

theorem Loaded.delays {s : QState} (h : Loaded s) : DelaysOK s.data :=
  fun i e he => (h.entries i e he).2.2

theorem Loaded.pos {s : QState} (h : Loaded s) : 0 < s.data.length :=
  List.length_pos_iff.mpr h.npos

theorem Loaded.trials {s : QState} (h : Loaded s) {k : Nat} (hk : k < s.data.length) :
    1 ≤ trialsOf s k := by
  have := (h.entries k s.data[k] (List.getElem?_eq_getElem hk)).2.1
  simpa [trialsOf, List.getElem?_eq_getElem hk] using this

theorem Loaded.trv_pos {s : QState} (h : Loaded s) {k : Nat} (hk : k < s.data.length) :
    0 < trv s.data k :=
  h.trials hk

/-- Common part of every policy invariant, relative to the table at load time: `n` stimuli with
requested counts `req`; `led` is the ledger remaining(k) = requested(k) − presented(k). -/
structure Base (n : Nat) (req : Nat → Int) (v : PView) : Prop where
  len : v.data.length = n
  npos : 0 < n
  delays : DelaysOK v.data
  led : ∀ k, k < n → trv v.data k = req k - ((v.keys.count k : Nat) : Int)
  keysLt : ∀ k ∈ v.keys, k < n

theorem Base_init {s : QState} (h : Loaded s) :
    Base s.data.length (fun k => trialsOf s k) (view s) :=
  ⟨rfl, h.pos, h.delays, by intro k _; simp [view, h.added, trialsOf_eq], by simp [view, h.added]⟩

theorem Base_step {n : Nat} {req : Nat → Int} {v v' : PView} (hb : Base n req v) {k : Nat}
    (hk : k < n) (hd : v'.data = dataStep v.data k) (hkeys : v'.keys = v.keys ++ [k]) :
    Base n req v' := by
  refine ⟨by rw [hd, dataStep_length, hb.len], hb.npos, by rw [hd]; exact DelaysOK_dataStep hb.delays k,
    ?_, by rw [hkeys]; exact forall_mem_snoc hb.keysLt hk⟩
  intro k' hk'
  rw [hd, hkeys, trv_dataStep _ _ _ (by rw [hb.len]; exact hk), hb.led k' hk', List.count_append,
    List.count_singleton]
  by_cases h : k' = k
  · subst h; simp; omega
  · have : ¬ k = k' := fun h' => h h'.symm
    simp [h, this]

theorem Base.unsat_iff {n : Nat} {req : Nat → Int} {v : PView} (hb : Base n req v) {k : Nat}
    (hk : k < n) : 0 < trv v.data k ↔ ((v.keys.count k : Nat) : Int) < req k := by
  rw [hb.led k hk]; exact Int.sub_pos

theorem Base.exact {n : Nat} {req : Nat → Int} {v : PView} (hb : Base n req v)
    (hnn : ∀ k, k < n → 0 ≤ trv v.data k) :
    (∀ k, k < n → ((v.keys.count k : Nat) : Int) ≤ req k) ∧
    ((∀ k, k < n → trv v.data k ≤ 0) → ∀ k, k < n → ((v.keys.count k : Nat) : Int) = req k) := by
  refine ⟨fun k hk => ?_, fun hle k hk => ?_⟩
  · have h1 := hnn k hk
    rw [hb.led k hk] at h1; omega
  · have h1 := hnn k hk
    have h2 := hle k hk
    rw [hb.led k hk] at h1 h2; omega

theorem idx_lt {n : Nat} (hn : 0 < n) (x : Int) : (x % (n : Int)).toNat < n := by
  have hn' : (0 : Int) < n := Int.natCast_pos.mpr hn
  exact (Int.toNat_lt (Int.emod_nonneg _ (Int.ne_of_gt hn'))).mpr (Int.emod_lt_of_pos _ hn')

theorem idx_cast {n : Nat} (hn : 0 < n) (x : Int) : (((x % (n : Int)).toNat : Nat) : Int) = x % (n : Int) :=
  Int.toNat_of_nonneg (Int.emod_nonneg _ (Int.ne_of_gt (Int.natCast_pos.mpr hn)))

/-- A property of every log entry, relative to its position and the entries before it, survives
appending an entry that has it. -/
theorem snoc_each {P : Nat → List Nat → Nat → Prop} {L : List Nat} {k : Nat}
    (h : ∀ j (hj : j < L.length), P j (L.take j) L[j]) (hk : P L.length L k) :
    ∀ j (hj : j < (L ++ [k]).length), P j ((L ++ [k]).take j) (L ++ [k])[j] := by
  intro j hj
  have hj' : j < L.length + 1 := by simpa using hj
  by_cases hjl : j < L.length
  · rw [List.getElem_append_left hjl, List.take_append_of_le_length (by omega)]
    exact h j hjl
  · have : j = L.length := by omega
    subst this
    rw [List.getElem_append_right (Nat.le_refl _), List.take_append_of_le_length (Nat.le_refl _),
      List.take_of_length_le (Nat.le_refl _)]
    simpa using hk

theorem nonneg_dataStep {n k : Nat} {d : List Entry} (hlen : d.length = n) (hk : k < n)
    (hpos : 0 < trv d k) (h : ∀ k', k' < n → 0 ≤ trv d k') :
    ∀ k', k' < n → 0 ≤ trv (dataStep d k) k' := by
  intro k' hk'
  rw [trv_dataStep _ _ _ (by rw [hlen]; exact hk)]
  split
  · rename_i e; subst e; exact Int.sub_nonneg_of_le hpos
  · exact h k' hk'

theorem all_le_iff (d : List Entry) :
    d.all (fun e => decide (e.trials ≤ 0)) = true ↔ ∀ k, k < d.length → trv d k ≤ 0 := by
  rw [List.all_eq_true]
  constructor
  · intro h k hk
    have := h d[k] (List.getElem_mem hk)
    simpa [trv, List.getElem?_eq_getElem hk] using this
  · intro h e he
    obtain ⟨k, hk, rfl⟩ := List.getElem_of_mem he
    have := h k hk
    simpa [trv, List.getElem?_eq_getElem hk] using this

theorem setTrials_length (d : List Entry) (k : Nat) (f : Int → Int) :
    (setTrials d k f).length = d.length := by simp [setTrials]

/-- Interleaved / BlockedRandom: decrement, then set `_complete` when no counter is positive. -/
theorem decrementKey_complete {s : QState} {k : Nat}
    (hk : s.kind = .interleaved ∨ s.kind = .blockedRandom) (hm : k ∈ s.ordering) :
    decrementKey s k = .ok { s with
      data := setTrials s.data k (· - 1),
      complete := if (setTrials s.data k (· - 1)).all (fun e => decide (e.trials ≤ 0))
                  then true else s.complete } := by
  have hc : s.ordering.contains k = true := List.contains_iff_mem.mpr hm
  unfold decrementKey
  rw [if_neg (not_not_intro hc)]
  rcases hk with hk | hk <;> simp only [hk] <;> split <;> rfl

theorem open_closed_of_iff {c : Bool} {n : Nat} {t : Nat → Int} (h : c = true ↔ ∀ k, k < n → t k ≤ 0) :
    (c = false → ∃ k, k < n ∧ 0 < t k) ∧ (c = true → ∀ k, k < n → t k ≤ 0) := by
  refine ⟨fun hc => ?_, h.mp⟩
  apply Classical.byContradiction
  intro hne
  have : c = true := h.mpr (fun k hk => Int.not_lt.mp (fun hp => hne ⟨k, hk, hp⟩))
  rw [hc] at this; cases this

theorem Loaded.compl {s : QState} (h : Loaded s) :
    s.complete = true ↔ ∀ k, k < s.data.length → trv s.data k ≤ 0 := by
  rw [h.complete]
  refine ⟨fun hc => (by cases hc), fun hall => ?_⟩
  have := h.trv_pos h.pos
  have := hall 0 h.pos
  omega

/-- One trial of `k` by an interleaved / blocked-random queue that is not complete, whatever way
`next_key` chose `k`. -/
theorem complete_trial {n : Nat} {s sa : QState} {k : Nat} (hlen : s.data.length = n)
    (hdel : DelaysOK s.data) (hkind : s.kind = .interleaved ∨ s.kind = .blockedRandom)
    (hord : s.ordering = List.range n) (hc : s.complete = false)
    (hkey : nextKey s = .ok (some (k, sa))) (hkl : k < n) :
    ∃ s1, nextTrial s = .ok (some s1) ∧
      view s1 = { view s with data := dataStep s.data k, keys := (view s).keys ++ [k],
                              complete := s1.complete, cursor := sa.cursor, block := sa.block,
                              draws := sa.draws, perms := sa.perms } ∧
      (s1.complete = true ↔ ∀ k', k' < n → trv s1.data k' ≤ 0) := by
  have f1 := nextKey_frame hkey
  have hsak : sa.kind = s.kind := by rw [f1]
  have hsao : sa.ordering = s.ordering := by rw [f1]
  have hsad : sa.data = s.data := by rw [f1]
  have hsac : sa.complete = false := by rw [f1]; exact hc
  have hkd : k < s.data.length := by rw [hlen]; exact hkl
  have hdec := decrementKey_complete (s := sa) (by rw [hsak]; exact hkind)
    (by rw [hsao, hord]; exact List.mem_range.mpr hkl)
  rw [hsad, hsac] at hdec
  obtain ⟨s1, hs1, hv⟩ := nextTrial_ok hkey hdec hkd hdel
  have hdata : s1.data = dataStep s.data k := congrArg PView.data hv
  have hcomp : s1.complete =
      if (setTrials s.data k (· - 1)).all (fun e => decide (e.trials ≤ 0)) then true else false :=
    congrArg PView.complete hv
  refine ⟨s1, hs1, ?_, ?_⟩
  · rw [hv]
    simp only [view, PView.mk.injEq, true_and, and_true]
    exact ⟨hsao, hcomp.symm⟩
  · rw [hcomp, hdata, ← trv_setTrials_eq_dataStep, ← hlen, ← setTrials_length s.data k (· - 1),
      ← all_le_iff]
    split <;> simp [*]

/-- FIFO / Random: decrement, remove the key at zero. -/
theorem decrementKey_erase {s : QState} {k : Nat}
    (hk : s.kind = .fifo ∨ s.kind = .random) (hm : k ∈ s.ordering) :
    decrementKey s k = .ok { s with
      data := setTrials s.data k (· - 1),
      ordering := if trv (setTrials s.data k (· - 1)) k ≤ 0 then s.ordering.erase k else s.ordering } := by
  have hc : s.ordering.contains k = true := by simpa using hm
  unfold decrementKey
  simp only [hc, not_true_eq_false, if_false]
  rcases hk with hk | hk <;> simp only [hk, trialsOf_eq] <;> split <;> rfl

/-- Grouped: decrement, remove the whole group once none of its counters is positive. -/
theorem decrementKey_grouped {s : QState} {k : Nat} (hk : s.kind = .grouped) (hm : k ∈ s.ordering) :
    decrementKey s k = .ok { s with
      data := setTrials s.data k (· - 1),
      ordering := if (s.ordering.take s.gsize).all
                      (fun k' => decide (trv (setTrials s.data k (· - 1)) k' ≤ 0))
                  then (s.ordering.take s.gsize).foldl (fun o k => o.erase k) s.ordering
                  else s.ordering } := by
  have hc : s.ordering.contains k = true := by simpa using hm
  unfold decrementKey
  simp only [hc, not_true_eq_false, if_false, hk, trialsOf_eq]
  split <;> rfl

theorem foldl_erase_take (l : List Nat) (g : Nat) (hn : l.Nodup) :
    (l.take g).foldl (fun o k => o.erase k) l = l.drop g := by
  induction g generalizing l with
  | zero => simp
  | succ g ih =>
    cases l with
    | nil => simp
    | cons a l =>
      simp only [List.take_succ_cons, List.foldl_cons, List.erase_cons_head, List.drop_succ_cons]
      exact ih l (List.nodup_cons.mp hn).2

/-- a stimulus as `append` accepts it for this property: ≥ 1 sample, ≥ 1 trial, a non-empty cycle of
delays ≥ 0 -/
def GoodEntry (e : Entry) : Prop :=
  0 < e.len ∧ 1 ≤ e.trials ∧ e.delays ≠ [] ∧ ∀ d ∈ e.delays, 0 ≤ d

/-- `queue.append(...)` once per entry -/
def loadAll (s : QState) (es : List Entry) : QState := es.foldl (fun s e => (append s e).1) s

structure PreLoaded (s : QState) : Prop where
  ordering : s.ordering = List.range s.data.length
  entries : ∀ (i : Nat) (e : Entry), s.data[i]? = some e → GoodEntry e
  cursor : s.cursor = -1
  complete : s.complete = false
  block : s.block = []
  added : s.added = []
  source : s.source = none
  empty : s.empty = false
  gsize : s.kind = .grouped → (s.auto = true ∧ s.gsize = s.data.length) ∨ (s.auto = false ∧ 1 ≤ s.gsize)

theorem PreLoaded_append {s : QState} (h : PreLoaded s) {e : Entry} (he : GoodEntry e) :
    PreLoaded (append s e).1 := by
  refine ⟨?_, ?_, h.cursor, h.complete, h.block, h.added, h.source, h.empty, ?_⟩
  · simp [append, h.ordering, List.range_succ]
  · intro i e' hi
    simp only [append] at hi
    by_cases hlt : i < s.data.length
    · rw [List.getElem?_append_left hlt] at hi; exact h.entries i e' hi
    · rw [List.getElem?_append_right (by omega)] at hi
      cases hsub : i - s.data.length with
      | zero => simp [hsub] at hi; rw [← hi]; exact he
      | succ m => simp [hsub] at hi
  · intro hk
    rcases h.gsize hk with ⟨ha, hg⟩ | ⟨ha, hg⟩
    · left; simp [append, ha, hg]
    · right; simp [append, ha, hg]

theorem PreLoaded_loadAll {s : QState} (h : PreLoaded s) (es : List Entry) (hes : ∀ e ∈ es, GoodEntry e) :
    PreLoaded (loadAll s es) := by
  induction es generalizing s with
  | nil => exact h
  | cons e es ih =>
    exact ih (PreLoaded_append h (hes e (by simp))) (fun e' he' => hes e' (by simp [he']))

theorem loadAll_fields (s : QState) (es : List Entry) :
    (loadAll s es).data = s.data ++ es ∧ (loadAll s es).draws = s.draws ∧ (loadAll s es).perms = s.perms ∧
    (loadAll s es).generated = s.generated ∧ (loadAll s es).removed = s.removed := by
  induction es generalizing s with
  | nil => simp [loadAll]
  | cons e es ih =>
    have := ih (append s e).1
    simp only [loadAll, List.foldl_cons] at this ⊢
    rw [this.1, this.2.1, this.2.2.1, this.2.2.2.1, this.2.2.2.2]; simp [append]

theorem loadAll_data (s : QState) (es : List Entry) : (loadAll s es).data = s.data ++ es :=
  (loadAll_fields s es).1

theorem loadAll_oracle (s : QState) (es : List Entry) :
    (loadAll s es).draws = s.draws ∧ (loadAll s es).perms = s.perms :=
  ⟨(loadAll_fields s es).2.1, (loadAll_fields s es).2.2.1⟩

/-- the queue object right after its constructor (BlockedFIFO: `auto`, group size starts at 0) -/
def newQueue (kind : Kind) (keep : Bool) (gsize : Nat) (auto : Bool) (draws : List Nat)
    (perms : List (List Nat)) : QState :=
  { kind := kind, keep := keep, gsize := if auto then 0 else gsize, auto := auto, draws := draws,
    perms := perms }

/-- `Loaded` is what the constructor and ≥ 1 `append`s build, for every policy, option, group size ≥ 1
(BlockedFIFO: `auto`, its group size counts the appends) and oracle streams. -/
theorem loaded_by_append (kind : Kind) (keep : Bool) (gsize : Nat) (auto : Bool) (draws : List Nat)
    (perms : List (List Nat)) (es : List Entry) (hne : es ≠ []) (hes : ∀ e ∈ es, GoodEntry e)
    (hg : kind = .grouped → auto = false → 1 ≤ gsize) :
    Loaded (loadAll (newQueue kind keep gsize auto draws perms) es) := by
  have h0 : PreLoaded (newQueue kind keep gsize auto draws perms) := by
    refine ⟨rfl, by intro i e h; simp [newQueue] at h, rfl, rfl, rfl, rfl, rfl, rfl, ?_⟩
    intro hk
    cases auto with
    | true => left; simp [newQueue]
    | false => right; exact ⟨rfl, by simpa [newQueue] using hg hk rfl⟩
  have h := PreLoaded_loadAll h0 es hes
  have hd := loadAll_data (newQueue kind keep gsize auto draws perms) es
  have hdne : (loadAll (newQueue kind keep gsize auto draws perms) es).data ≠ [] := by
    rw [hd]; simpa [newQueue] using hne
  refine ⟨hdne, h.ordering, h.entries, h.cursor, h.complete, h.block, h.added, h.source, h.empty, ?_⟩
  intro hk
  rcases h.gsize hk with ⟨_, hgs⟩ | ⟨_, hgs⟩
  · rw [hgs]; exact List.length_pos_iff.mpr hdne
  · exact hgs

end Psi.Queue

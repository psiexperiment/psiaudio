import PsiProofs.Helper.C14_Refine
/-! What the read operations return in a state that refines a spec. -/
namespace Psi.Buffer

variable {α : Type}

section
variable {s : State α} {sp : Spec α} (r : Refines s sp)
include r

theorem Refines.samplesLb_eq : samplesLb s = sp.lo := by
  have := r.lb_eq
  unfold samplesLb
  omega

theorem Refines.samplesUb_eq : samplesUb s = sp.hi :=
  congrArg Nat.cast r.samples_eq

theorem Refines.rangeSamples_outside (lb ub : Int) (h : lb < sp.lo ∨ (sp.hi : Int) < ub) :
    rangeSamples s lb ub = .error .indexError := by
  have := r.lb_eq
  have := r.samples_eq
  unfold Spec.hi at h
  unfold rangeSamples toIndex
  by_cases c : lb - s.samples + s.cap < s.ilb
  · exact if_pos c
  · rw [if_neg c, if_pos (by omega)]

theorem Refines.rangeSamples_inside (lb ub : Int) (h1 : (sp.lo : Int) ≤ lb) (h2 : lb ≤ ub)
    (h3 : ub ≤ sp.hi) : rangeSamples s lb ub = .ok (sp.slice lb.toNat ub.toNat) := by
  -- the request is `[lo + i, lo + i + k)`, at the buffer indices `[ilb + i, ilb + i + k)`
  obtain ⟨i, rfl⟩ := Int.le.dest h1
  obtain ⟨k, rfl⟩ := Int.le.dest h2
  rw [← Int.natCast_add, ← Int.natCast_add] at h3 ⊢
  obtain ⟨m, hi, hl⟩ := r.valid
  have hub : s.ilb + i + k ≤ s.buf.length := by
    have := Int.ofNat_le.1 h3; unfold Spec.hi at this; rw [r.len]; omega
  rw [Int.toNat_natCast, Int.toNat_natCast, Spec.slice_add]
  unfold rangeSamples
  rw [Nat.add_assoc, r.toIndex_lo_add i, r.toIndex_lo_add (i + k), ← Nat.add_assoc,
    if_neg (Int.not_lt.2 (Int.ofNat_le.2 (Nat.le_add_right _ _))),
    if_neg (Int.not_lt.2 (Int.ofNat_le.2 (r.len ▸ hub))),
    pySlice_natCast _ _ _ (Nat.le_add_right _ _) hub, List.drop_take, Nat.add_sub_cancel_left,
    ← List.drop_drop, r.win, List.drop_drop]

theorem Refines.rangeSamples_eq (lb ub : Int) (h : lb ≤ ub) :
    rangeSamples s lb ub = sp.read lb ub := by
  unfold Spec.read
  by_cases c : lb < sp.lo ∨ (sp.hi : Int) < ub
  · rw [if_pos c]; exact r.rangeSamples_outside lb ub c
  · rw [if_neg c]
    exact r.rangeSamples_inside lb ub (Int.not_lt.1 (mt Or.inl c)) h (Int.not_lt.1 (mt Or.inr c))

theorem Refines.window_eq : window s = .ok sp.window := by
  unfold window
  rw [r.samplesLb_eq, r.samplesUb_eq, r.rangeSamples_inside sp.lo sp.hi (Int.le_refl _)
    (Int.ofNat_le.2 r.lo_le) (Int.le_refl _), Int.toNat_natCast, Int.toNat_natCast,
    sp.slice_to_end]
  rfl

end

theorem toNat_max_zero (x : Int) : (max x 0).toNat = x.toNat := by
  rcases Int.le_total 0 x with h | h
  · rw [Int.max_eq_left h]
  · rw [Int.max_eq_right h, Int.toNat_eq_zero.2 h]; rfl

theorem Spec.slice_toNat_max (sp : Spec α) (x y : Int) :
    sp.slice x.toNat (max y x).toNat = sp.slice x.toNat y.toNat := by
  rcases Int.le_total x y with h | h
  · rw [Int.max_eq_left h]
  · rw [Int.max_eq_right h, sp.slice_of_le (Nat.le_refl _), sp.slice_of_le (Int.toNat_le_toNat h)]

theorem clamp_comm {lo hi : Int} (h : lo ≤ hi) (x : Int) : min (max lo x) hi = max lo (min hi x) := by
  rw [Int.max_min_distrib_left, Int.max_eq_right h, Int.min_comm]

/-- The upper end of the effective range of `get_range_filled`, `max (min hi b) (clamp a)`, is
`max (clamp b) (clamp a)`; `a ≤ b` is not needed. -/
theorem max_min_clamp {lo hi : Int} (h : lo ≤ hi) (a b : Int) :
    max (min hi b) (min (max lo a) hi) = max (min (max lo b) hi) (min (max lo a) hi) := by
  have hlo : lo ≤ min (max lo a) hi := Int.le_min.2 ⟨Int.le_max_left _ _, h⟩
  generalize min (max lo a) hi = c at hlo ⊢
  rw [clamp_comm h b, Int.max_comm lo, Int.max_assoc, Int.max_eq_right hlo]

/-- No hypothesis on `a`, `b`: the request may be disjoint from the window or reversed. -/
theorem Refines.rangeFilled_eq {s : State α} {sp : Spec α} (r : Refines s sp)
    (a b : Int) (fill : α) : rangeFilled s a b fill = .ok (sp.filled a b fill) := by
  have hlo : (sp.lo : Int) ≤ sp.hi := Int.ofNat_le.2 r.lo_le
  unfold rangeFilled
  simp only [r.samplesLb_eq, r.samplesUb_eq]
  rw [r.rangeSamples_inside _ _ (Int.le_min.2 ⟨Int.le_max_left _ _, hlo⟩) (Int.le_max_right _ _)
      (Int.max_le.2 ⟨Int.min_le_left _ _, Int.min_le_right _ _⟩),
    toNat_max_zero, toNat_max_zero, max_min_clamp hlo, Spec.slice_toNat_max]
  rfl

theorem Refines.latest_some {s : State α} {sp : Spec α} (r : Refines s sp) (lb ub : Int) (fill : α) :
    latest s lb ub (some fill) = .ok (sp.filled (lb + sp.hi) (ub + sp.hi) fill) := by
  unfold latest
  rw [r.samplesUb_eq]
  exact r.rangeFilled_eq _ _ _

end Psi.Buffer

import PsiModel.Scope
/-!
# C19 — declarative specification of Python name resolution, and `resolve` ⇔ spec

`BoundAt bi m i n w`: name `n`, read in scope `i` of the module whose scope list is `m`, is
bound at `w` (builtins `bi`).  It is the LEGB rule as a set of inference rules, fuel-free and without
mention of `parent < j`; the executable `resolve` computes exactly this relation on well-formed
tables.
-/
namespace Psi.Scope

/-- Module globals, then builtins. -/
inductive GlobalAt (bi : List Nat) (m : List Scope) (n : Nat) : Binding → Prop
  | glob {g : Scope} : m[0]? = some g → n ∈ g.bound → GlobalAt bi m n .global
  | builtin {g : Scope} : m[0]? = some g → n ∉ g.bound → n ∈ bi → GlobalAt bi m n .builtin

/-- Looking for `n` from enclosing scope `j` outwards finds it at `w`. -/
inductive EnclosingAt (bi : List Nat) (m : List Scope) (n : Nat) : Nat → Binding → Prop
  /-- the walk reached the module scope -/
  | module {s : Scope} {w : Binding} : m[0]? = some s → s.kind = .module → GlobalAt bi m n w → EnclosingAt bi m n 0 w
  /-- a class offers only its implicit cells (`__class__`) to nested functions… -/
  | cell {j : Nat} {s : Scope} : m[j]? = some s → s.kind = .class → n ∈ s.cells → EnclosingAt bi m n j (.cell j)
  /-- …its own bindings are skipped -/
  | classSkip {j : Nat} {s : Scope} {w : Binding} : m[j]? = some s → s.kind = .class → n ∉ s.cells →
      EnclosingAt bi m n s.parent w → EnclosingAt bi m n j w
  /-- a function-like scope that binds the name captures it -/
  | captured {j : Nat} {s : Scope} : m[j]? = some s → s.kind.functionLike = true → n ∈ s.bound →
      EnclosingAt bi m n j (.enclosing j)
  /-- a function-like scope that declares it `global` sends it to the module -/
  | declaredGlobal {j : Nat} {s : Scope} {w : Binding} : m[j]? = some s → s.kind.functionLike = true → n ∉ s.bound →
      n ∈ s.globals → GlobalAt bi m n w → EnclosingAt bi m n j w
  | outward {j : Nat} {s : Scope} {w : Binding} : m[j]? = some s → s.kind.functionLike = true → n ∉ s.bound →
      n ∉ s.globals → EnclosingAt bi m n s.parent w → EnclosingAt bi m n j w

/-- By the rule of the reading scope itself: declared `global`, declared `nonlocal`, module level,
bound here, or free (then `EnclosingAt` from the parent outwards). -/
inductive BoundAt (bi : List Nat) (m : List Scope) (i n : Nat) : Binding → Prop
  | declaredGlobal {s : Scope} {w : Binding} : m[i]? = some s → n ∈ s.globals → GlobalAt bi m n w → BoundAt bi m i n w
  | declaredNonlocal {s : Scope} {j : Nat} : m[i]? = some s → n ∉ s.globals → s.kind ≠ .module → n ∈ s.nonlocals →
      EnclosingAt bi m n s.parent (.enclosing j) → BoundAt bi m i n (.enclosing j)
  | moduleLevel {s : Scope} {w : Binding} : m[i]? = some s → n ∉ s.globals → s.kind = .module → i = 0 →
      GlobalAt bi m n w → BoundAt bi m i n w
  | «local» {s : Scope} : m[i]? = some s → n ∉ s.globals → n ∉ s.nonlocals → s.kind ≠ .module → n ∈ s.bound →
      BoundAt bi m i n .local
  | free {s : Scope} {w : Binding} : m[i]? = some s → n ∉ s.globals → n ∉ s.nonlocals → s.kind ≠ .module → n ∉ s.bound →
      EnclosingAt bi m n s.parent w → BoundAt bi m i n w

/-- The property for one load: the name is bound somewhere Python will look. -/
def Resolves (bi : List Nat) (m : List Scope) (i n : Nat) : Prop := ∃ w, BoundAt bi m i n w

/-- Holds because scopes are listed in pre-order. -/
abbrev WF (m : List Scope) : Prop :=
  ∀ (j : Nat) (s : Scope), m[j]? = some s → s.kind ≠ .module → s.parent < j

/-- `mo.a₁.a₂…` exists, following sub-modules. -/
inductive AttrExists (mods : List ModObj) : Nat → List Nat → Prop
  | nil {mo : Nat} : AttrExists mods mo []
  | leaf {mo : Nat} {M : ModObj} {a : Nat} {rest : List Nat} : mods[mo]? = some M → a ∈ M.attrs → lookup a M.submods = none →
      AttrExists mods mo (a :: rest)
  | sub {mo : Nat} {M : ModObj} {a : Nat} {rest : List Nat} {mo' : Nat} : mods[mo]? = some M → a ∈ M.attrs → lookup a M.submods = some mo' →
      AttrExists mods mo' rest → AttrExists mods mo (a :: rest)

theorem mem_iff {n : Nat} {l : List Nat} : mem n l = true ↔ n ∈ l := by
  induction l with
  | nil => simp [mem]
  | cons a as ih => simp only [mem, Bool.or_eq_true, Nat.beq_eq, ih, List.mem_cons]

theorem kind_cases (k : Kind) : k = .module ∨ k = .class ∨ k.functionLike = true := by
  cases k <;> simp [Kind.functionLike]

section equations
variable {bi : List Nat} {m : List Scope} {n i j fuel : Nat} {s : Scope}

theorem globalLookup_eq (hs : m[0]? = some s) :
    globalLookup bi m n = if n ∈ s.bound then some .global else if n ∈ bi then some .builtin else none := by
  simp only [globalLookup, hs, mem_iff]

theorem enclosing_module (hs : m[j]? = some s) (hk : s.kind = .module) :
    enclosing bi m n (fuel + 1) j = if j = 0 then globalLookup bi m n else none := by
  simp only [enclosing, hs, hk]

theorem enclosing_class (hs : m[j]? = some s) (hk : s.kind = .class) :
    enclosing bi m n (fuel + 1) j =
      if n ∈ s.cells then some (.cell j)
      else if s.parent < j then enclosing bi m n fuel s.parent else none := by
  simp only [enclosing, hs, hk, mem_iff]

theorem enclosing_fun (hs : m[j]? = some s) (hk : s.kind.functionLike = true) :
    enclosing bi m n (fuel + 1) j =
      if n ∈ s.bound then some (.enclosing j)
      else if n ∈ s.globals then globalLookup bi m n
      else if s.parent < j then enclosing bi m n fuel s.parent else none := by
  cases h : s.kind <;> first | exact absurd hk (by rw [h]; decide) | simp only [enclosing, hs, h, mem_iff]

theorem resolve_global (hs : m[i]? = some s) (hg : n ∈ s.globals) :
    resolve bi m i n = globalLookup bi m n := by
  simp only [resolve, hs, mem_iff.2 hg, if_true]

theorem resolve_module (hs : m[i]? = some s) (hg : n ∉ s.globals) (hk : s.kind = .module) :
    resolve bi m i n = if i = 0 then globalLookup bi m n else none := by
  simp only [resolve, hs, mem_iff, hg, if_false, hk]

theorem resolve_inner (hs : m[i]? = some s) (hg : n ∉ s.globals) (hk : s.kind ≠ .module) :
    resolve bi m i n =
      if n ∈ s.nonlocals then
        (if s.parent < i then
          match enclosing bi m n i s.parent with
          | some (.enclosing j) => some (.enclosing j)
          | _ => none
         else none)
      else if n ∈ s.bound then some .local
      else if s.parent < i then enclosing bi m n i s.parent else none := by
  cases h : s.kind <;> first | exact absurd h hk | (simp only [resolve, hs, h, mem_iff, hg, if_false]; rfl)

end equations

theorem globalLookup_sound {bi m n w} (h : globalLookup bi m n = some w) : GlobalAt bi m n w := by
  cases hg : m[0]? with
  | none => simp [globalLookup, hg] at h
  | some g =>
    rw [globalLookup_eq hg] at h
    split at h
    · cases h; exact .glob hg ‹_›
    · split at h
      · cases h; exact .builtin hg ‹_› ‹_›
      · cases h

theorem enclosing_sound {bi m n} : ∀ fuel j w, enclosing bi m n fuel j = some w → EnclosingAt bi m n j w := by
  intro fuel
  induction fuel with
  | zero => intro j w h; simp [enclosing] at h
  | succ fuel ih =>
    intro j w h
    cases hs : m[j]? with
    | none => simp [enclosing, hs] at h
    | some s =>
      rcases kind_cases s.kind with hk | hk | hk
      · rw [enclosing_module hs hk] at h
        split at h
        · subst j; exact .module hs hk (globalLookup_sound h)
        · cases h
      · rw [enclosing_class hs hk] at h
        split at h
        · cases h; exact .cell hs hk ‹_›
        · split at h
          · exact .classSkip hs hk ‹_› (ih _ _ h)
          · cases h
      · rw [enclosing_fun hs hk] at h
        split at h
        · cases h; exact .captured hs hk ‹_›
        · split at h
          · exact .declaredGlobal hs hk ‹_› ‹_› (globalLookup_sound h)
          · split at h
            · exact .outward hs hk ‹_› ‹_› (ih _ _ h)
            · cases h

theorem resolve_sound {bi m i n w} (h : resolve bi m i n = some w) : BoundAt bi m i n w := by
  cases hs : m[i]? with
  | none => simp [resolve, hs] at h
  | some s =>
    by_cases hg : n ∈ s.globals
    · rw [resolve_global hs hg] at h
      exact .declaredGlobal hs hg (globalLookup_sound h)
    · by_cases hk : s.kind = .module
      · rw [resolve_module hs hg hk] at h
        split at h
        · exact .moduleLevel hs hg hk ‹_› (globalLookup_sound h)
        · cases h
      · rw [resolve_inner hs hg hk] at h
        split at h
        · split at h
          · split at h
            · rename_i j he; cases h
              exact .declaredNonlocal hs hg hk ‹_› (enclosing_sound _ _ _ he)
            · cases h
          · cases h
        · split at h
          · cases h; exact .local hs hg ‹_› hk ‹_›
          · split at h
            · exact .free hs hg ‹_› hk ‹_› (enclosing_sound _ _ _ h)
            · cases h

theorem globalLookup_complete {bi m n w} (h : GlobalAt bi m n w) : globalLookup bi m n = some w := by
  cases h with
  | glob hg hb => rw [globalLookup_eq hg, if_pos hb]
  | builtin hg hb hbi => rw [globalLookup_eq hg, if_neg hb, if_pos hbi]

theorem enclosing_complete {bi m n} (wf : WF m) {j w} (h : EnclosingAt bi m n j w) :
    ∀ fuel, j < fuel → enclosing bi m n fuel j = some w := by
  induction h with
  | module hs hk hg =>
    rintro (_ | f) hf
    · cases hf
    · rw [enclosing_module hs hk, if_pos rfl, globalLookup_complete hg]
  | cell hs hk hc =>
    rintro (_ | f) hf
    · cases hf
    · rw [enclosing_class hs hk, if_pos hc]
  | @classSkip j s w hs hk hc _ ih =>
    rintro (_ | f) hf
    · cases hf
    · have hp : s.parent < j := wf j s hs (by rw [hk]; decide)
      rw [enclosing_class hs hk, if_neg hc, if_pos hp, ih f (by omega)]
  | captured hs hk hb =>
    rintro (_ | f) hf
    · cases hf
    · rw [enclosing_fun hs hk, if_pos hb]
  | declaredGlobal hs hk hb hg hgl =>
    rintro (_ | f) hf
    · cases hf
    · rw [enclosing_fun hs hk, if_neg hb, if_pos hg, globalLookup_complete hgl]
  | @outward j s w hs hk hb hg _ ih =>
    rintro (_ | f) hf
    · cases hf
    · have hp : s.parent < j := wf j s hs (by rintro h; rw [h] at hk; cases hk)
      rw [enclosing_fun hs hk, if_neg hb, if_neg hg, if_pos hp, ih f (by omega)]

theorem resolve_complete {bi m i n w} (wf : WF m) (h : BoundAt bi m i n w) : resolve bi m i n = some w := by
  cases h with
  | declaredGlobal hs hg hgl => rw [resolve_global hs hg, globalLookup_complete hgl]
  | @declaredNonlocal s j hs hg hk hnl he =>
    have hp : s.parent < i := wf i s hs hk
    rw [resolve_inner hs hg hk, if_pos hnl, if_pos hp, enclosing_complete wf he i hp]
  | moduleLevel hs hg hk hi hgl => rw [resolve_module hs hg hk, if_pos hi, globalLookup_complete hgl]
  | «local» hs hg hnl hk hb => rw [resolve_inner hs hg hk, if_neg hnl, if_pos hb]
  | @free s w hs hg hnl hk hb he =>
    have hp : s.parent < i := wf i s hs hk
    rw [resolve_inner hs hg hk, if_neg hnl, if_neg hb, if_pos hp, enclosing_complete wf he i hp]

end Psi.Scope

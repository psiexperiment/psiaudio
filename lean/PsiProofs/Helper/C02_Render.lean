import PsiModel.QueueSpec
/-! Lists of cells: `wave`, `zeros`, and the rendering of a list of notified trials. Nothing here mentions
the queue's step functions. The last three lemmas are the arguments of `gap_exact` / `waveform_embedded` /
`uncovered_zero` (C02, C02ND) with the timeline equation and the output length as hypotheses. -/
namespace Psi.Queue

theorem zeros_succ (n : Nat) : zeros (n + 1) = Cell.Z :: zeros n := by
  simp [zeros, List.replicate_succ]

theorem zeros_succ' (n : Nat) : zeros (n + 1) = zeros n ++ [Cell.Z] := by
  simp [zeros, List.replicate_succ']

theorem wave_succ (key off n : Nat) : wave key off (n + 1) = Cell.W key off :: wave key (off + 1) n := by
  simp [wave, List.range_succ_eq_map, List.map_map, Function.comp_def]
  intro a _; omega

@[simp] theorem wave_zero (key off : Nat) : wave key off 0 = [] := by simp [wave]
@[simp] theorem zeros_zero : zeros 0 = [] := rfl
@[simp] theorem wave_length (key off n : Nat) : (wave key off n).length = n := by simp [wave]
@[simp] theorem zeros_length (n : Nat) : (zeros n).length = n := by simp [zeros]

theorem wave_getElem? (key off n i : Nat) (h : i < n) : (wave key off n)[i]? = some (Cell.W key (off + i)) := by
  simp [wave, h]

theorem zeros_getElem? (n i : Nat) (h : i < n) : (zeros n)[i]? = some Cell.Z := by
  simp [zeros, h]

def render (infos : List Info) : List Cell :=
  infos.flatMap (fun i => wave i.key 0 i.len ++ zeros i.delay.toNat)

def seg (i : Info) : List Cell := wave i.key 0 i.len ++ zeros i.delay.toNat

theorem render_append (a b : List Info) : render (a ++ b) = render a ++ render b := by
  simp [render]

theorem render_cons (a : Info) (l : List Info) : render (a :: l) = seg a ++ render l := by
  simp [render, seg]

/-- trial `j` starts right after everything rendered before it -/
def PosOK (base : Int) (infos : List Info) : Prop :=
  ∀ j (h : j < infos.length), infos[j].k = base + ((render (infos.take j)).length : Nat)

theorem PosOK_snoc {base : Int} {new : List Info} {info : Info} (h : PosOK base new)
    (hk : info.k = base + ((render new).length : Nat)) : PosOK base (new ++ [info]) := by
  intro j hj
  by_cases hlt : j < new.length
  · have := h j hlt
    simp only [List.getElem_append_left hlt]
    rw [List.take_append_of_le_length (Nat.le_of_lt hlt)]
    exact this
  · have hj' : j = new.length := by simp at hj; omega
    subst hj'
    simp [hk]

theorem render_wave (infos : List Info) (j : Nat) (hj : j < infos.length) (i : Nat) (hi : i < infos[j].len) :
    (render infos)[(render (infos.take j)).length + i]? = some (Cell.W infos[j].key i) := by
  have h : render infos = render (infos.take j) ++ (seg infos[j] ++ render (infos.drop (j + 1))) := by
    rw [← render_cons, ← List.drop_eq_getElem_cons hj, ← render_append, List.take_append_drop]
  rw [h, List.getElem?_append_right (Nat.le_add_right _ _), Nat.add_sub_cancel_left,
    List.getElem?_append_left (by rw [seg, List.length_append, wave_length]; exact Nat.lt_add_right _ hi), seg,
    List.getElem?_append_left (by rw [wave_length]; exact hi), wave_getElem? _ _ _ _ hi, Nat.zero_add]

theorem render_classify (infos : List Info) (p : Nat) (hp : p < (render infos).length) :
    (render infos)[p]? = some Cell.Z ∨
    ∃ j, ∃ hj : j < infos.length, ∃ i, i < infos[j].len ∧ p = (render (infos.take j)).length + i ∧
      (render infos)[p]? = some (Cell.W infos[j].key i) := by
  induction infos generalizing p with
  | nil => simp [render] at hp
  | cons a l ih =>
    rw [render_cons] at hp ⊢
    by_cases h1 : p < (seg a).length
    · rw [List.getElem?_append_left h1]
      by_cases h2 : p < a.len
      · right
        refine ⟨0, by simp, p, by simpa using h2, by simp [render], ?_⟩
        simp only [seg, List.getElem_cons_zero]
        rw [List.getElem?_append_left (by simpa using h2)]
        simpa using wave_getElem? a.key 0 a.len p h2
      · left
        simp only [seg] at h1 ⊢
        rw [List.length_append, wave_length, zeros_length] at h1
        rw [List.getElem?_append_right (by rw [wave_length]; exact Nat.not_lt.1 h2), wave_length]
        exact zeros_getElem? _ _ (Nat.sub_lt_left_of_lt_add (Nat.not_lt.1 h2) h1)
    · have h1 := Nat.not_lt.1 h1
      rw [List.getElem?_append_right h1]
      have hp' : p - (seg a).length < (render l).length := by
        rw [List.length_append] at hp; exact Nat.sub_lt_left_of_lt_add h1 hp
      rcases ih (p - (seg a).length) hp' with hz | ⟨j, hj, i, hi, hpe, hw⟩
      · left; exact hz
      · right
        refine ⟨j + 1, by simpa using hj, i, by simpa using hi, ?_, by simpa using hw⟩
        rw [List.take_succ_cons, render_cons, List.length_append, Nat.add_assoc, ← hpe,
          Nat.add_sub_cancel' h1]

/- The bound of `new[j]` is written out: left to the default tactic (`omega` on `hj`) the statement costs
more to elaborate than the proof. -/
theorem gap_exact_of {base : Int} {new : List Info} (hp : PosOK base new) :
    (∀ h0 : 0 < new.length, new[0].k = base) ∧
    (∀ j (hj : j + 1 < new.length),
      new[j + 1].k = (new[j]'(Nat.lt_of_succ_lt hj)).k + ((new[j]'(Nat.lt_of_succ_lt hj)).len : Nat) +
        ((new[j]'(Nat.lt_of_succ_lt hj)).delay.toNat : Nat)) := by
  refine ⟨?_, ?_⟩
  · intro h0; have := hp 0 h0; simpa [render] using this
  · intro j hj
    have h1 := hp (j + 1) hj
    have hj' := Nat.lt_of_succ_lt hj
    rw [h1, hp j hj', List.take_succ_eq_append_getElem hj', render_append, List.length_append,
      Int.natCast_add, ← Int.add_assoc]
    simp [render, Int.add_assoc]

theorem waveform_embedded_of {n z : Nat} {base : Int} {out tail : List Cell} {new : List Info}
    (he : out ++ tail = render new ++ zeros z) (hp : PosOK base new) (hlen : out.length = n) :
    ∀ j (hj : j < new.length) (i : Nat), i < new[j].len →
      ∀ p : Nat, new[j].k + (i : Nat) = base + (p : Nat) → p < n →
        out[p]? = some (Cell.W new[j].key i) := by
  intro j hj i hi p hpe hpn
  have hw := render_wave new j hj i hi
  have hpp : (((render (new.take j)).length + i : Nat) : Int) = p := by
    rw [Int.natCast_add]; exact Int.add_left_cancel (by rw [← Int.add_assoc, ← hp j hj]; exact hpe)
  rw [← Int.ofNat_inj.1 hpp] at hpn ⊢
  rw [← List.getElem?_append_left (l₂ := tail) (hlen ▸ hpn), he,
    List.getElem?_append_left (List.getElem?_eq_some_iff.1 hw).1]
  exact hw

theorem uncovered_zero_of {n z : Nat} {base : Int} {out tail : List Cell} {new : List Info}
    (he : out ++ tail = render new ++ zeros z) (hp : PosOK base new) (hlen : out.length = n) :
    ∀ p : Nat, p < n → out[p]? = some Cell.Z ∨
      ∃ j, ∃ hj : j < new.length, ∃ i, i < new[j].len ∧ new[j].k + (i : Nat) = base + (p : Nat) ∧
        out[p]? = some (Cell.W new[j].key i) := by
  intro p hpn
  rw [← List.getElem?_append_left (l₂ := tail) (hlen ▸ hpn), he]
  by_cases hin : p < (render new).length
  · rw [List.getElem?_append_left hin]
    rcases render_classify new p hin with hz | ⟨j, hj, i, hi, hpe, hw'⟩
    · left; exact hz
    · right
      exact ⟨j, hj, i, hi, by rw [hp j hj, hpe, Int.natCast_add, Int.add_assoc], hw'⟩
  · left
    have hin := Nat.not_lt.1 hin
    rw [List.getElem?_append_right hin]
    apply zeros_getElem?
    have : p < (render new).length + z := by
      rw [← zeros_length z, ← List.length_append, ← he, List.length_append]
      exact Nat.lt_add_right _ (hlen ▸ hpn)
    exact Nat.sub_lt_left_of_lt_add hin this

end Psi.Queue

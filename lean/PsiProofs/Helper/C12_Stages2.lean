import PsiProofs.Helper.C12_Run
/-! `downsample` and `decimate`: both keep the incomplete tail of what they have seen as a remainder, `concat` the
next chunk (for `decimate`: the filtered chunk) to it, and emit every `q`-th sample of the complete part. -/
namespace Psi.Stages
variable {α β ρ χ μ S τ : Type}

/-- carried remainder: none, or the samples `r` the first of which is sample `p` of the stream -/
def RemIs (rem : Option (PD α ρ χ μ)) (r : List α) (p : Int) (ann : Ann ρ χ μ) : Prop :=
  (rem = none ∧ r = []) ∨ rem = some { data := r, s0 := p, ann := ann }

theorem catOpt_stream {rem : Option (PD α ρ χ μ)} {r : List α} {s p : Int} {ann : Ann ρ χ μ}
    (h : RemIs rem r p ann) (hs : s = p + r.length) (c : List α) :
    catOpt rem { data := c, s0 := s, ann := ann } = .ok { data := r ++ c, s0 := p, ann := ann } := by
  rcases h with ⟨rfl, rfl⟩ | rfl
  · rw [List.length_nil, Int.natCast_zero, Int.add_zero] at hs
    subst hs; rfl
  · simp only [catOpt, cat, PD.len, hs, ↓reduceIte]

theorem dsSplit_stream (divFs : ρ → Nat → ρ) (q : Nat) (w : List α) (p : Int) (ann : Ann ρ χ μ) :
    ∃ rem' : Option (PD α ρ χ μ),
      dsSplit divFs q { data := w, s0 := p, ann := ann } =
        ({ data := stride q (w.take (w.length / q * q)), s0 := p, ann := { ann with fs := divFs ann.fs q } }, rem')
      ∧ RemIs rem' (w.drop (w.length / q * q)) (p + (w.length / q * q : Nat)) ann := by
  have hk : w.length / q * q + w.length % q = w.length := by
    rw [Nat.mul_comm]; exact Nat.div_add_mod _ _
  by_cases h : w.length % q = 0
  · rw [h, Nat.add_zero] at hk
    refine ⟨none, ?_, Or.inl ⟨rfl, by rw [hk, List.drop_length]⟩⟩
    simp only [dsSplit, PD.len, h, ne_eq, not_true_eq_false, ↓reduceIte, PD.strided, hk, List.take_length]
  · refine ⟨_, ?_, Or.inr rfl⟩
    have hk' : w.length - w.length % q = w.length / q * q := by omega
    simp only [dsSplit, PD.len, h, ne_eq, not_false_eq_true, ↓reduceIte, PD.strided, PD.takeN, PD.lastN, hk']
    congr 4
    omega

def dsRes (divFs : ρ → Nat → ρ) (q : Nat) (ann : Ann ρ χ μ) (w : List α) (t : Int) : PD α ρ χ μ :=
  { data := stride q (w.take (w.length / q * q)), s0 := t, ann := { ann with fs := divFs ann.fs q } }

theorem downsampleStep_stream (divFs : ρ → Nat → ρ) (twoD : Bool) (q : Nat) (hq : 0 < q) {ann : Ann ρ χ μ}
    {r : List α} {s p t : Int} {st : DownSt α ρ χ μ} (hrem : RemIs st.rem r p ann) (hs : s = p + r.length)
    (hs0 : st.s0 = some t ∨ st.s0 = none ∧ t = p) (c : List α) :
    ∃ rem' : Option (PD α ρ χ μ),
      downsampleStep divFs twoD q st { data := c, s0 := s, ann := ann }
        = .ok (if twoD || (dsRes divFs q ann (r ++ c) t).len ≠ 0 then [dsRes divFs q ann (r ++ c) t] else [],
               { rem := rem', s0 := some (t + (dsRes divFs q ann (r ++ c) t).len) })
      ∧ RemIs rem' ((r ++ c).drop ((r ++ c).length / q * q)) (p + ((r ++ c).length / q * q : Nat)) ann := by
  obtain ⟨rem', hsplit, hrem'⟩ := dsSplit_stream divFs q (r ++ c) p ann
  refine ⟨rem', ?_, hrem'⟩
  unfold downsampleStep
  rw [if_neg (Nat.ne_of_gt hq), catOpt_stream hrem hs c]
  simp only [hsplit, dsRes]
  rcases hs0 with h | ⟨h, rfl⟩ <;> (rw [h]; rfl)

theorem dsRes_emits (divFs : ρ → Nat → ρ) (q : Nat) (ann : Ann ρ χ μ) (w : List α) (t : Int) (c : Prop) [Decidable c]
    (h : ¬ c → (dsRes divFs q ann w t).len = 0) :
    Emits (if c then [dsRes divFs q ann w t] else []) (stride q (w.take (w.length / q * q))) 1 t
      { ann with fs := divFs ann.fs q } :=
  Emits.ite (dsRes divFs q ann w t) 1 c fun hc => List.eq_nil_of_length_eq_zero (h hc)

/-- `downsample(q)` (as repaired): `x[0::q]` over the complete multiples of `q`, rate `fs/q`, blocks contiguous in
output samples from the input `s0` -/
theorem downsample_chunk_invariant (divFs : ρ → Nat → ρ) (twoD : Bool) (q : Nat) (hq : 0 < q)
    (ann : Ann ρ χ μ) (s : Int) (cs : List (List α)) :
    ∃ bs, outputs (runStage (downsampleStep divFs twoD q) {} (stream ann s cs)) = .ok bs
      ∧ Emits bs (stride q (cs.flatten.take (cs.flatten.length / q * q))) 1 s
          { ann with fs := divFs ann.fs q } := by
  refine stream_run_emits (fun (st : DownSt α ρ χ μ) s t F => ∃ r p, RemIs st.rem r p ann ∧ s = p + r.length
      ∧ r.length < q ∧ (st.s0 = some t ∨ st.s0 = none ∧ t = p)
      ∧ F = fun x => stride q ((r ++ x).take ((r ++ x).length / q * q))) ?_ ?_ cs
    ⟨[], s, Or.inl ⟨rfl, rfl⟩, by simp, hq, Or.inr ⟨rfl, rfl⟩, rfl⟩
  · rintro st s t F ⟨r, p, -, -, hr, -, rfl⟩
    dsimp only
    rw [List.append_nil, Nat.div_eq_of_lt hr, Nat.zero_mul, List.take_zero]; rfl
  · rintro st s t F c ⟨r, p, hrem, hs, hr, hs0, rfl⟩
    obtain ⟨rem', hstep, hrem'⟩ := downsampleStep_stream divFs twoD q hq hrem hs hs0 c
    refine ⟨_, _, _, _, _, hstep, dsRes_emits divFs q ann (r ++ c) t _ ?_, fun x => ?_, ?_, _, _, hrem', ?_,
      drop_complete_lt q hq _, Or.inl rfl, rfl⟩
    · intro h
      simp only [Bool.or_eq_true, decide_eq_true_eq, not_or, Decidable.not_not] at h
      exact h.2
    · dsimp only; rw [← List.append_assoc, stride_complete_append q hq]
    · rw [Int.one_mul]; rfl
    · rw [hs, next_pos, rest_pos]

theorem decimateStep_none (lf : S → List α → List β × S) (zi : S) (divFs : ρ → Nat → ρ) (q : Nat) (y : PD α ρ χ μ) :
    decimateStep lf zi divFs q none y = decimateStep lf zi divFs q (some { zf := zi, rem := none, s0 := y.s0 }) y := rfl

theorem decimateStep_stream (m : Mealy α β S) (lf : S → List α → List β × S) (hlf : LfilterIs lf m)
    (zi : S) (divFs : ρ → Nat → ρ) (q : Nat) (hq : 0 < q) {ann : Ann ρ χ μ} {r : List β} {s p : Int}
    {rem : Option (PD β ρ χ μ)} (hrem : RemIs rem r p ann) (hs : s = p + r.length) (t : Int) (zf : S) (c : List α) :
    ∃ rem' : Option (PD β ρ χ μ),
      decimateStep lf zi divFs q (some { zf := zf, rem := rem, s0 := t }) { data := c, s0 := s, ann := ann }
        = .ok (if (dsRes divFs q ann (r ++ (m.run zf c).1) t).len ≠ 0
                then [dsRes divFs q ann (r ++ (m.run zf c).1) t] else [],
               some { zf := (m.run zf c).2, rem := rem',
                      s0 := t + (dsRes divFs q ann (r ++ (m.run zf c).1) t).len })
      ∧ RemIs rem' ((r ++ (m.run zf c).1).drop ((r ++ (m.run zf c).1).length / q * q))
          (p + ((r ++ (m.run zf c).1).length / q * q : Nat)) ann := by
  obtain ⟨rem', hsplit, hrem'⟩ := dsSplit_stream divFs q (r ++ (m.run zf c).1) p ann
  refine ⟨rem', ?_, hrem'⟩
  unfold decimateStep
  rw [if_neg (Nat.ne_of_gt hq)]
  simp only [lfGuard_eq hlf, PD.withData, catOpt_stream hrem hs (m.run zf c).1, hsplit, dsRes]
  rfl

/-- `decimate(q)` (as repaired): filter the whole signal, keep every `q`-th sample.  Empty chunks anywhere in the
stream are covered although `lfilter` reports an arbitrary state for them (`LfilterIs`). -/
theorem decimate_chunk_invariant (m : Mealy α β S) (lf : S → List α → List β × S) (hlf : LfilterIs lf m)
    (zi : S) (divFs : ρ → Nat → ρ) (q : Nat) (hq : 0 < q)
    (ann : Ann ρ χ μ) (s : Int) (cs : List (List α)) :
    ∃ bs, outputs (runStage (decimateStep lf zi divFs q) none (stream ann s cs)) = .ok bs
      ∧ Emits bs (stride q ((m.run zi cs.flatten).1.take (cs.flatten.length / q * q))) 1 s
          { ann with fs := divFs ann.fs q } := by
  rw [← Mealy.run_length m zi cs.flatten]
  refine stream_run_emits (fun (st : Option (DecSt β ρ χ μ S)) s t F => ∃ zf r p rem,
      (st = some { zf := zf, rem := rem, s0 := t } ∨ st = none ∧ zf = zi ∧ rem = none ∧ t = s)
      ∧ RemIs rem r p ann ∧ s = p + r.length ∧ r.length < q
      ∧ F = fun x => stride q ((r ++ (m.run zf x).1).take ((r ++ (m.run zf x).1).length / q * q))) ?_ ?_ cs
    ⟨zi, [], s, none, Or.inr ⟨rfl, rfl, rfl, rfl⟩, Or.inl ⟨rfl, rfl⟩, by simp, hq, rfl⟩
  · rintro st s t F ⟨zf, r, p, rem, -, -, -, hr, rfl⟩
    dsimp only
    rw [Mealy.run, List.append_nil, Nat.div_eq_of_lt hr, Nat.zero_mul, List.take_zero]; rfl
  · rintro st s t F c ⟨zf, r, p, rem, hst, hrem, hs, hr, rfl⟩
    obtain ⟨rem', hstep, hrem'⟩ := decimateStep_stream m lf hlf zi divFs q hq hrem hs t zf c
    have hst' : decimateStep lf zi divFs q st { data := c, s0 := s, ann := ann }
        = decimateStep lf zi divFs q (some { zf := zf, rem := rem, s0 := t }) { data := c, s0 := s, ann := ann } := by
      rcases hst with rfl | ⟨rfl, rfl, rfl, rfl⟩
      · rfl
      · exact decimateStep_none ..
    refine ⟨_, _, _, _, _, hst'.trans hstep, dsRes_emits divFs q ann _ t _ ?_, fun x => ?_, ?_, _, _, _, _, Or.inl rfl, hrem', ?_,
      drop_complete_lt q hq _, rfl⟩
    · exact Decidable.not_not.mp
    · simp only [Mealy.run_append]; rw [← List.append_assoc, stride_complete_append q hq]
    · rw [Int.one_mul]; rfl
    · rw [hs, ← Mealy.run_length m zf c, next_pos, rest_pos]

end Psi.Stages

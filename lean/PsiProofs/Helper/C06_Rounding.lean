import Mathlib.Algebra.Order.Round
import Mathlib.Algebra.Order.Archimedean.Real.Basic
import Mathlib.Tactic.Linarith
import Mathlib.Tactic.Positivity
import Mathlib.Tactic.Ring
import Mathlib.Tactic.NormNum
/-!
Error analysis of the seconds <-> samples round trip

  queue      : t0' = fl(T + fl(k / fs))         (queue.py `next_trial`: `self._t0 + (self._samples/self._fs)`)
  extractor  : round(fl(fl(t0' - p) * fs))      (pipeline.py `extract_epochs`: `round((info['t0'] - prestim_time) * fs)`)

in the standard model of floating-point arithmetic: `fl` is any function with
`|fl x - x| ≤ u * |x|` (IEEE-754 binary64 round-to-nearest in the normal range has u = 2⁻⁵³).
-/
namespace Psi.Rounding

def IsFl (u : ℝ) (fl : ℝ → ℝ) : Prop := ∀ x, |fl x - x| ≤ u * |x|

theorem isFl_id {u : ℝ} (hu : 0 ≤ u) : IsFl u (fun x => x) := fun x => by
  rw [sub_self, abs_zero]; exact mul_nonneg hu (abs_nonneg x)

noncomputable def queueT0 (fl : ℝ → ℝ) (T fs : ℝ) (k : ℕ) : ℝ := fl (T + fl ((k : ℝ) / fs))

noncomputable def extractorArg (fl : ℝ → ℝ) (T fs p : ℝ) (k : ℕ) : ℝ :=
  fl (fl (queueT0 fl T fs k - p) * fs)

/-- one more rounding: an error of `n` roundings relative to the magnitude bound `W` of the exact `x`
becomes that of `n + 1` -/
theorem fl_step {u : ℝ} {fl : ℝ → ℝ} (hu : 0 ≤ u) (hfl : IsFl u fl) {x' x W : ℝ} (n : ℕ) (hx : |x| ≤ W)
    (he : |x' - x| ≤ ((1 + u) ^ n - 1) * W) : |fl x' - x| ≤ ((1 + u) ^ (n + 1) - 1) * W := by
  have h1 : |x'| ≤ W + ((1 + u) ^ n - 1) * W :=
    calc |x'| = |x + (x' - x)| := by rw [add_sub_cancel]
      _ ≤ |x| + |x' - x| := abs_add_le _ _
      _ ≤ _ := add_le_add hx he
  calc |fl x' - x| ≤ |fl x' - x'| + |x' - x| := abs_sub_le _ _ _
    _ ≤ u * (W + ((1 + u) ^ n - 1) * W) + ((1 + u) ^ n - 1) * W :=
      add_le_add ((hfl x').trans (mul_le_mul_of_nonneg_left h1 hu)) he
    _ = ((1 + u) ^ (n + 1) - 1) * W := by ring

/-- four roundings, every exact intermediate bounded by `M = (T + k/fs + p)·fs` -/
theorem extractorArg_error_pow {u : ℝ} {fl : ℝ → ℝ} (hu0 : 0 ≤ u) (hfl : IsFl u fl)
    (T fs p : ℝ) (k : ℕ) (hfs : 0 < fs) (hT : 0 ≤ T) (hp : 0 ≤ p) :
    |extractorArg fl T fs p k - (T + (k : ℝ) / fs - p) * fs| ≤
      ((1 + u) ^ 4 - 1) * ((T + (k : ℝ) / fs + p) * fs) := by
  have hq0 : 0 ≤ (k : ℝ) / fs := div_nonneg k.cast_nonneg hfs.le
  unfold extractorArg queueT0
  generalize (k : ℝ) / fs = q at hq0 ⊢
  have hTq0 : 0 ≤ T + q := add_nonneg hT hq0
  have hq : |q| ≤ T + q + p := by
    rw [abs_of_nonneg hq0]; exact le_add_of_le_of_nonneg (le_add_of_nonneg_left hT) hp
  have hTq : |T + q| ≤ T + q + p := by rw [abs_of_nonneg hTq0]; exact le_add_of_nonneg_right hp
  have hTqp : |T + q - p| ≤ T + q + p :=
    (abs_sub _ _).trans_eq (by rw [abs_of_nonneg hTq0, abs_of_nonneg hp])
  have e1 := fl_step hu0 hfl 0 hq (by rw [sub_self, abs_zero, pow_zero, sub_self, zero_mul])
  have e2 := fl_step hu0 hfl 1 hTq (by rw [add_sub_add_left_eq_sub]; exact e1)
  have e3 := fl_step hu0 hfl 2 hTqp (by rw [sub_sub_sub_cancel_right]; exact e2)
  refine fl_step hu0 hfl 3 ?_ ?_
  · rw [abs_mul, abs_of_pos hfs]; exact mul_le_mul_of_nonneg_right hTqp hfs.le
  · rw [← sub_mul, abs_mul, abs_of_pos hfs, ← mul_assoc]; exact mul_le_mul_of_nonneg_right e3 hfs.le

/-- where the constant 6 comes from: `(1+u)⁴ − 1 = 4u + 6u² + 4u³ + u⁴`, and the higher terms are at
most `(6/100 + 4/100² + 1/100³)·u < 2u` for `u ≤ 1/100` -/
theorem pow4_sub_one_le {u : ℝ} (hu0 : 0 ≤ u) (hu1 : u ≤ 1 / 100) : (1 + u) ^ 4 - 1 ≤ 6 * u := by
  have h2 : u * u ≤ 1 / 100 * u := mul_le_mul_of_nonneg_right hu1 hu0
  have h3 : u * u * u ≤ 1 / 100 * u * u := mul_le_mul_of_nonneg_right h2 hu0
  have h4 : u * u * u * u ≤ 1 / 100 * u * u * u := mul_le_mul_of_nonneg_right h3 hu0
  have : (1 + u) ^ 4 - 1 = 4 * u + 6 * (u * u) + 4 * (u * u * u) + u * u * u * u := by ring
  linarith

/-- Forward error bound: the computed argument of `round` differs from the exact `(T + k/fs - p)·fs`
by at most `6u·(T + k/fs + p)·fs`. -/
theorem extractorArg_error {u : ℝ} {fl : ℝ → ℝ} (hu0 : 0 ≤ u) (hu1 : u ≤ 1 / 100) (hfl : IsFl u fl)
    (T fs p : ℝ) (k : ℕ) (hfs : 0 < fs) (hT : 0 ≤ T) (hp : 0 ≤ p) :
    |extractorArg fl T fs p k - (T + (k : ℝ) / fs - p) * fs| ≤ 6 * u * ((T + (k : ℝ) / fs + p) * fs) :=
  (extractorArg_error_pow hu0 hfl T fs p k hfs hT hp).trans
    (mul_le_mul_of_nonneg_right (pow4_sub_one_le hu0 hu1)
      (mul_nonneg (add_nonneg (add_nonneg hT (div_nonneg k.cast_nonneg hfs.le)) hp) hfs.le))

/-- every round-to-nearest function returns `n` on `x` when `|x - n| < 1/2`; Mathlib's `round` does -/
theorem round_eq_of_close (x : ℝ) (n : ℤ) (h : |x - n| < 1 / 2) : round x = n := by
  rw [abs_sub_lt_iff] at h
  rw [round_eq, Int.floor_eq_iff]
  exact ⟨(sub_lt_iff_lt_add'.1 h.2).le, by linarith [h.1]⟩

end Psi.Rounding

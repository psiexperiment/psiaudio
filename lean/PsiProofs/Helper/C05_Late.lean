import PsiProofs.Helper.C05_SeqDefs
/-! Helper for C05: histories of `Call`s, i.e. with requests appended to `queue` *during* a call
(after its intake loop, before its done test).  Such a request is taken in by the next call,
ahead of that call's own requests: as far as captures and deliveries go, a history of calls
behaves like the late-free history `effective [] calls` (simulation `runCalls_sim`); only the
done test differs — it sees the queue. -/
namespace Psi.Extract

def plain {α} (cs : List (Call α)) : List (Op α) := cs.map (·.toOp)

/-- What the intake loops find in `queue`, call by call, when it held `q` before the first
call: what the previous call left there, then the call's own requests. -/
def effective {α} : List Request → List (Call α) → List (Op α)
  | _, [] => []
  | q, c :: cs => { c.toOp with reqs := q ++ c.reqs } :: effective c.late cs

def queueAfter {α} : List Request → List (Call α) → List Request
  | q, [] => q
  | _, c :: cs => queueAfter c.late cs

def allMade {α} (cs : List (Call α)) : List Request := cs.flatMap (fun c => c.reqs ++ c.late)

theorem effective_append {α} (q : List Request) (a b : List (Call α)) :
    effective q (a ++ b) = effective q a ++ effective (queueAfter q a) b := by
  induction a generalizing q with
  | nil => rfl
  | cons c cs ih => simp [effective, queueAfter, ih]

theorem effective_length {α} (q : List Request) (cs : List (Call α)) :
    (effective q cs).length = cs.length := by
  induction cs generalizing q with
  | nil => rfl
  | cons c cs ih => simp [effective, ih]

theorem effective_map_const {α β} (q : List Request) (cs : List (Call α)) (b : β) :
    (effective q cs).map (fun _ => b) = cs.map (fun _ => b) := by
  rw [List.map_const', List.map_const', effective_length]

theorem total_effective {α} (q : List Request) (cs : List (Call α)) :
    total (effective q cs) = total (plain cs) := by
  induction cs generalizing q with
  | nil => rfl
  | cons c cs ih =>
    have := ih c.late
    simp only [total] at this
    simp [effective, total, plain, this]

theorem streamOf_effective {α} (q : List Request) (cs : List (Call α)) :
    streamOf (effective q cs) = streamOf (plain cs) := by
  induction cs generalizing q with
  | nil => rfl
  | cons c cs ih =>
    have := ih c.late
    simp only [streamOf] at this
    simp [effective, streamOf, plain, this]

theorem specDeliver_effective {α} (r : Request) (T : Nat) (q : List Request) (cs : List (Call α)) :
    specDeliver r T (effective q cs) = specDeliver r T (plain cs) := by
  induction cs generalizing q T with
  | nil => rfl
  | cons c cs ih =>
    simp only [effective, plain, List.map_cons, specDeliver]
    rw [effective_map_const, ← plain, ih, plain, List.map_map]; rfl

theorem specPending_effective {α} (r : Request) (T : Nat) (q : List Request) (cs : List (Call α)) :
    specPending r T (effective q cs) = specPending r T (plain cs) := by
  induction cs generalizing q T with
  | nil => rfl
  | cons c cs ih =>
    simp only [effective, plain, List.map_cons, specPending]
    rw [← plain, ih]

theorem allReqs_effective_sub {α} (q : List Request) (cs : List (Call α)) (r : Request)
    (h : r ∈ allReqs (effective q cs)) : r ∈ q ∨ r ∈ allMade cs := by
  induction cs generalizing q with
  | nil => simp [effective, allReqs] at h
  | cons c cs ih =>
    simp only [effective, allReqs, List.flatMap_cons, List.mem_append] at h
    simp only [allMade, List.flatMap_cons, List.mem_append]
    rcases h with (h | h) | h
    · exact Or.inl h
    · exact Or.inr (Or.inl (Or.inl h))
    · rcases ih c.late h with h | h
      · exact Or.inr (Or.inl (Or.inr h))
      · exact Or.inr (Or.inr h)

theorem made_taken {α} (q : List Request) (cs : List (Call α)) (r : Request)
    (h : r ∈ q ∨ r ∈ allMade cs) (hq : queueAfter q cs = []) :
    ∃ pre c rest, cs = pre ++ c :: rest ∧ r ∈ queueAfter q pre ++ c.reqs := by
  induction cs generalizing q with
  | nil =>
    simp only [queueAfter] at hq
    subst hq
    simp [allMade] at h
  | cons c cs ih =>
    simp only [allMade, List.flatMap_cons, List.mem_append] at h
    have take : r ∈ q ∨ r ∈ c.reqs → ∃ pre c' rest, c :: cs = pre ++ c' :: rest ∧
        r ∈ queueAfter q pre ++ c'.reqs := fun h' =>
      ⟨[], c, cs, rfl, by simpa [queueAfter] using h'⟩
    have later : r ∈ c.late ∨ r ∈ allMade cs → ∃ pre c' rest, c :: cs = pre ++ c' :: rest ∧
        r ∈ queueAfter q pre ++ c'.reqs := by
      intro h'
      obtain ⟨pre, c', rest, e, hr⟩ := ih c.late h' (by simpa [queueAfter] using hq)
      exact ⟨c :: pre, c', rest, by rw [e]; rfl, by simpa [queueAfter] using hr⟩
    rcases h with h | (h | h) | h
    · exact take (Or.inl h)
    · exact take (Or.inr h)
    · exact later (Or.inl h)
    · exact later (Or.inr h)

/-- the two states agree on everything the captures and deliveries depend on -/
def Sim {α} (a b : State α) : Prop :=
  a.tlb = b.tlb ∧ a.pending = b.pending ∧ a.prior = b.prior ∧ a.bufferSamples = b.bufferSamples ∧
    a.dead = b.dead

def Outcome.unfire {α} : Outcome α → Outcome α
  | .ok b _ => .ok b false
  | o => o

theorem delivK_unfire {α} (k : Nat) (o : Outcome α) : delivK k o.unfire = delivK k o := by
  cases o <;> rfl

theorem unfire_eq_ok {α} (o : Outcome α) (b : List (Epoch α)) (f : Bool)
    (h : o.unfire = (Outcome.ok b f).unfire) : ∃ f', o = .ok b f' := by
  cases o with
  | ok b' f' => simp only [Outcome.unfire, Outcome.ok.injEq] at h; exact ⟨f', by rw [h.1]⟩
  | valueError => simp [Outcome.unfire] at h
  | dead => simp [Outcome.unfire] at h

theorem call_sim {α} (a b : State α) (h : Sim a b) (hq : b.queue = []) (c : Call α) :
    Sim (call a c).1 (step b { c.toOp with reqs := a.queue ++ c.reqs }).1 ∧
    (step b { c.toOp with reqs := a.queue ++ c.reqs }).1.queue = [] ∧
    ((call a c).1.dead = false → (call a c).1.queue = c.late) ∧
    (call a c).2.unfire = (step b { c.toOp with reqs := a.queue ++ c.reqs }).2.unfire := by
  -- `b` is `a` with an empty queue and a flag of its own
  obtain ⟨tlb, pending, prior, B, df, dead, queue⟩ := b
  obtain ⟨rfl, rfl, rfl, rfl, rfl⟩ := h
  cases hq
  rcases call_cases a c with ⟨hd, h⟩ | ⟨hd, hr, h⟩ | ⟨p, es, hd, hi, hm⟩
  · rw [h, step, call_dead { a with queue := [], doneFired := df } _ hd]
    exact ⟨⟨rfl, rfl, rfl, rfl, rfl⟩, rfl, fun h' => (by rw [hd] at h'; cases h'), rfl⟩
  · rw [h, step, call_raise { a with queue := [], doneFired := df }
      { c with reqs := a.queue ++ c.reqs, late := [] } hd hr]
    exact ⟨⟨rfl, rfl, rfl, rfl, rfl⟩, rfl, fun h' => (by cases h'), rfl⟩
  · rw [call_ok a c p es hd hi hm, step, call_ok { a with queue := [], doneFired := df }
      { c with reqs := a.queue ++ c.reqs, late := [] } p es hd hi hm]
    exact ⟨⟨rfl, rfl, rfl, rfl, rfl⟩, rfl, fun _ => rfl, rfl⟩

theorem runCalls_append {α} (st : State α) (a b : List (Call α)) :
    runCalls st (a ++ b) =
      ((runCalls (runCalls st a).1 b).1, (runCalls st a).2 ++ (runCalls (runCalls st a).1 b).2) := by
  induction a generalizing st with
  | nil => simp [runCalls]
  | cons c cs ih => simp [runCalls, ih]

/-- The simulation; `q` is what `queue` holds before the first call. -/
theorem runCalls_sim {α} (cs : List (Call α)) (a b : State α) (q : List Request)
    (h : Sim a b) (hq : b.queue = []) (hqa : a.dead = false → a.queue = q) :
    Sim (runCalls a cs).1 (run b (effective q cs)).1 ∧
    (runCalls a cs).2.map Outcome.unfire = (run b (effective q cs)).2.map Outcome.unfire := by
  induction cs generalizing a b q with
  | nil => exact ⟨h, rfl⟩
  | cons c cs ih =>
    simp only [runCalls, effective, run, List.map_cons]
    by_cases hd : a.dead = true
    · have hb : b.dead = true := by rw [← h.2.2.2.2]; exact hd
      rw [call_dead a c hd, step, call_dead b _ hb]
      obtain ⟨i1, i2⟩ := ih a b c.late h hq (fun h' => by rw [hd] at h'; cases h')
      exact ⟨i1, by rw [i2]⟩
    · have hq' : a.queue = q := hqa (by simpa using hd)
      obtain ⟨s1, s2, s3, s4⟩ := call_sim a b h hq c
      rw [hq'] at s1 s2 s4
      obtain ⟨i1, i2⟩ := ih (call a c).1 _ c.late s1 s2 s3
      exact ⟨i1, by rw [i2, s4]⟩

/-- `step` and `run` are `call` and `runCalls` for a caller and a `target` that append nothing to
`queue` while a call is running. -/
theorem run_is_runCalls {α} (st : State α) (ops : List (Op α)) :
    run st ops = runCalls st (ops.map (fun op => { op with late := [] })) := by
  induction ops generalizing st with
  | nil => rfl
  | cons op ops ih => simp only [run, runCalls, List.map_cons, ih]; rfl

def Outcome.fired {α} : Outcome α → Bool
  | .ok _ f => f
  | _ => false

theorem call_done {α} (st : State α) (c : Call α) :
    ((call st c).2.fired = true →
        c.complete = true ∧ (call st c).1.pending = [] ∧ (call st c).1.queue = [] ∧ c.late = [] ∧
        st.doneFired = false ∧ (call st c).1.doneFired = true) ∧
    (st.doneFired = true → (call st c).1.doneFired = true ∧ (call st c).2.fired = false) := by
  rcases call_cases st c with ⟨_, h⟩ | ⟨_, _, h⟩ | ⟨p, es, hd, hi, hm⟩
  · rw [h]; exact ⟨fun hf => (by cases hf), fun hf => ⟨hf, rfl⟩⟩
  · rw [h]; exact ⟨fun hf => (by cases hf), fun hf => ⟨hf, rfl⟩⟩
  · rw [call_ok st c p es hd hi hm]
    constructor
    · intro h
      simp only [Outcome.fired, Bool.and_eq_true, Bool.not_eq_true', List.isEmpty_iff] at h
      obtain ⟨⟨⟨h1, h2⟩, h3⟩, h4⟩ := h
      simp only [h1, h2, h3, h4, List.isEmpty_nil, Bool.and_self, Bool.not_false, Bool.or_true, and_self]
    · intro h
      simp only [Outcome.fired, h, Bool.true_or, Bool.not_true, Bool.and_false, and_self]

theorem calls_done_count {α} (st : State α) (cs : List (Call α)) :
    ((runCalls st cs).2.filter Outcome.fired).length ≤ (if st.doneFired then 0 else 1) := by
  induction cs generalizing st with
  | nil => simp [runCalls]
  | cons c rest ih =>
    simp only [runCalls, List.filter_cons]
    have hs := call_done st c
    have ih' := ih (call st c).1
    by_cases hf : (call st c).2.fired = true
    · obtain ⟨_, _, _, _, h1, h2⟩ := hs.1 hf
      simp only [hf, if_true, List.length_cons, h1, Bool.false_eq_true, if_false]
      simp only [h2, if_true] at ih'
      exact Nat.succ_le_succ ih'
    · have hf' : (call st c).2.fired = false := by simpa using hf
      simp only [hf', Bool.false_eq_true, if_false]
      by_cases hdf : st.doneFired = true
      · simp only [(hs.2 hdf).1, if_true] at ih'
        simp only [hdf, if_true]; exact ih'
      · have hdf' : st.doneFired = false := by simpa using hdf
        simp only [hdf', Bool.false_eq_true, if_false]
        exact Nat.le_trans ih' (by split <;> decide)

theorem call_ok_doneFired {α} (st : State α) (c : Call α) (b : List (Epoch α)) (f : Bool)
    (h : (call st c).2 = .ok b f) :
    (call st c).1.doneFired =
      (st.doneFired || (c.complete && (call st c).1.queue.isEmpty && (call st c).1.pending.isEmpty
        && !st.doneFired)) ∧ (call st c).1.queue = c.late := by
  rcases call_cases st c with ⟨_, h'⟩ | ⟨_, _, h'⟩ | ⟨p, es, hd, hi, hm⟩
  · rw [h'] at h; cases h
  · rw [h'] at h; cases h
  · rw [call_ok st c p es hd hi hm]; exact ⟨rfl, rfl⟩

theorem call_ok_fired {α} (st : State α) (c : Call α) (b : List (Epoch α)) (f : Bool)
    (h : (call st c).2 = .ok b f) (hcomplete : c.complete = true)
    (hpend : (call st c).1.pending = []) (hqueue : (call st c).1.queue = []) :
    (call st c).1.doneFired = true := by
  rw [(call_ok_doneFired st c b f h).1, hpend, hqueue, hcomplete]
  cases st.doneFired <;> rfl

end Psi.Extract

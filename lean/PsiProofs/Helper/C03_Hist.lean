import PsiProofs.Helper.C03_Policy
import PsiProofs.C04
/-!
Histories over {pop n, pause m, pause(), resume m, resume()}: generic invariant lemmas, the
"time never runs backwards" side condition, the time invariant of the log (`TimeInv`) from which
"a pause cancels exactly the most recent trials" follows, and what `pause` does to the policy state.
-/
namespace Psi.Queue

/-- a history every step of which meets a side condition `C` (evaluated in the state it is applied to) -/
def HistOK (C : QState → Op → Prop) : List Op → QState → Prop
  | [], _ => True
  | op :: ops, s => C s op ∧ ∀ s', stepOp s op = .ok s' → HistOK C ops s'

/-- Accepted pauses, and resume positions that do not move the clock backwards: `pause(m)` with `m` not
after the clock (the property's own side condition), `resume(m₂)` with `m₂` not before the clock. -/
def OpMono (s : QState) : Op → Prop
  | .pause (some m) => m ≤ s.samples
  | .resume (some m) => s.samples ≤ m
  | _ => True

abbrev HistMono : List Op → QState → Prop := HistOK OpMono

/-- For an invariant of the policy view and the kept log it is enough that `next_trial` and `pause(m)`
preserve it: `pause()`, `resume` and every tick that sets up no trial leave both alone. -/
theorem stepOp_view {I : QState → Prop}
    (same : ∀ {s s'}, I s → view s' = view s → s'.generated = s.generated → I s')
    (step : ∀ {s s1}, I s → nextTrial s = .ok (some s1) → I s1)
    (hpause : ∀ m {s}, I s → I (pause (some m) s).1)
    {s s1 : QState} {op : Op} (hw : WF s) (hi : I s) (hs : stepOp s op = .ok s1) : I s1 :=
  stepOp_preserves (tick_inv_of_step same step)
    (fun m _ hi => by
      cases m with
      | none => exact same hi rfl rfl
      | some m => exact hpause m hi)
    (fun m _ hi => by cases m <;> exact same hi rfl rfl) hw hi hs

theorem hist_inv {I : QState → Prop} {C : QState → Op → Prop}
    (hstep : ∀ {s op s1}, WF s → I s → C s op → stepOp s op = .ok s1 → I s1)
    {ops : List Op} {s s' : QState} (hw : WF s) (hi : I s) (hc : HistOK C ops s)
    (h : runOps ops s = .ok s') : WF s' ∧ I s' := by
  induction ops generalizing s with
  | nil => simp [runOps] at h; subst h; exact ⟨hw, hi⟩
  | cons op ops ih =>
    simp only [runOps] at h
    cases hs : stepOp s op with
    | error e => simp [hs] at h
    | ok s1 =>
      simp only [hs] at h
      exact ih (stepOp_preserves tick_WF WF_pause WF_resume hw hw hs) (hstep hw hi hc.1 hs) (hc.2 s1 hs) h

theorem HistOK_true (ops : List Op) (s : QState) : HistOK (fun _ _ => True) ops s := by
  induction ops generalizing s with
  | nil => trivial
  | cons op ops ih => exact ⟨trivial, fun s' _ => ih s'⟩

theorem hist_inv' {I : QState → Prop}
    (hstep : ∀ {s op s1}, WF s → I s → stepOp s op = .ok s1 → I s1)
    {ops : List Op} {s s' : QState} (hw : WF s) (hi : I s)
    (h : runOps ops s = .ok s') : WF s' ∧ I s' :=
  hist_inv (C := fun _ _ => True) (fun hw hi _ => hstep hw hi) hw hi (HistOK_true ops s) h

theorem hist_ok {I : QState → Prop}
    (hstep : ∀ {s op s1}, WF s → I s → stepOp s op = .ok s1 → I s1)
    (hrun : ∀ n s, WF s → I s → ∃ r, runTicks n s = .ok r)
    {ops : List Op} {s : QState} (hw : WF s) (hi : I s)
    (hpos : ∀ n, Op.pop n ∈ ops → 0 < n) : ∃ s', runOps ops s = .ok s' := by
  induction ops generalizing s with
  | nil => exact ⟨s, rfl⟩
  | cons op ops ih =>
    have hs : ∃ s1, stepOp s op = .ok s1 := by
      cases op with
      | pop n =>
        obtain ⟨⟨out, s1⟩, hr⟩ := hrun n s hw hi
        exact ⟨s1, by simp [stepOp, popBuffer_refines hw (hpos n (by simp)), hr]⟩
      | pause m => exact ⟨_, rfl⟩
      | resume m => exact ⟨_, rfl⟩
    obtain ⟨s1, hs⟩ := hs
    obtain ⟨s', h'⟩ := ih (stepOp_preserves tick_WF WF_pause WF_resume hw hw hs) (hstep hw hi hs)
      (fun n hn => hpos n (List.mem_cons_of_mem _ hn))
    exact ⟨s', by simp only [runOps, hs]; exact h'⟩

theorem nextTrial_info {s s1 : QState} (h : nextTrial s = .ok (some s1)) :
    ∃ (info : Info) (e0 : Entry), s.data[info.key]? = some e0 ∧ info.delay ∈ e0.delays ∧
      info.dur = e0.dur ∧ info.len = e0.len ∧ info.k = s.samples ∧
      s1.generated = s.generated ++ [info] ∧
      s1.source = some { key := info.key, off := 0, len := info.len, gen := e0.gen } ∧
      s1.delaySamples = info.delay ∧ s1.samples = s.samples := by
  obtain ⟨key, sa, sb, e, d, hk, hd, he, _, hdl, rfl⟩ := nextTrial_some h
  have f1 := nextKey_frame hk
  have f2 := decrementKey_frame hd
  have hsb : sb.data = setTrials s.data key (· - 1) := by rw [f2]; simp only; rw [f1]
  rw [hsb, setTrials_get] at he
  simp only [if_true] at he
  cases h0 : s.data[key]? with
  | none => simp [h0] at he
  | some e0 =>
    simp only [h0, Option.map_some, Option.some.injEq] at he
    subst he
    have g1 : sb.generated = s.generated := by rw [f2]; simp only; rw [f1]
    have g3 : sb.samples = s.samples := by rw [f2]; simp only; rw [f1]
    exact ⟨mkInfo sb key { e0 with trials := e0.trials - 1 } d, e0, h0, List.mem_of_getElem? hdl, rfl, rfl,
      by simp only [mkInfo, g3], by simp only [g1], rfl, rfl, g3⟩

theorem nextTrial_generated {s s1 : QState} {k : Nat} (hn : nextTrial s = .ok (some s1))
    (hk : keyLog s1 = keyLog s ++ [k]) :
    ∃ info : Info, info.key = k ∧ s1.generated = s.generated ++ [info] := by
  obtain ⟨info, _, ha, hg, _⟩ := nextTrial_obs hn
  refine ⟨info, ?_, hg⟩
  rw [keyLog, ha] at hk
  simpa [keyLog] using hk

def remSrc (s : QState) : Int :=
  match s.source with
  | some src => ((src.len - src.off : Nat) : Int)
  | none => 0

/-- earliest sample at which the next trial can start -/
def horizon (s : QState) : Int := s.samples + remSrc s + s.delaySamples

/-- every trial's declared duration fits between its start and the start of the next trial:
`round(duration·fs) ≤ waveform length + every inter-trial delay` (always so with the default
`duration`, which is the waveform's own) -/
def DurOK (d : List Entry) : Prop :=
  ∀ (i : Nat) (e : Entry), d[i]? = some e → 0 ≤ e.dur ∧ ∀ x ∈ e.delays, e.dur ≤ (e.len : Int) + x

/-- The non-cancelled log is ordered in time: every logged trial has ended (on the grid) before the
next one starts, and before the next trial to come can start. -/
structure TimeInv (s : QState) : Prop where
  chain : s.generated.Pairwise (fun a b => a.k + a.dur ≤ b.k)
  hor : ∀ i ∈ s.generated, i.k + i.dur ≤ horizon s
  durnn : ∀ i ∈ s.generated, 0 ≤ i.dur
  durOK : DurOK s.data

theorem TimeInv_of_same {s s' : QState} (h : TimeInv s) (hg : s'.generated = s.generated)
    (hd : s'.data = s.data) (hh : horizon s ≤ horizon s') : TimeInv s' :=
  ⟨by rw [hg]; exact h.chain, by rw [hg]; intro i hi; have := h.hor i hi; omega,
   by rw [hg]; exact h.durnn, by rw [hd]; exact h.durOK⟩

theorem remSrc_emitSrc (s : QState) (src : Src) (hlt : src.off < src.len) :
    remSrc (emitSrc s src).2 = ((src.len - (src.off + 1) : Nat) : Int) := by
  unfold remSrc emitSrc bump
  dsimp only
  by_cases hc : (src.gen && decide (src.off + 1 ≥ src.len)) = true
  · rw [if_pos hc]
    simp only [Bool.and_eq_true, decide_eq_true_eq] at hc
    dsimp only
    omega
  · rw [if_neg hc]

theorem horizon_emitSrc (s : QState) (src : Src) (hs : s.source = some src) (hlt : src.off < src.len) :
    horizon (emitSrc s src).2 = horizon s := by
  have e1 : remSrc s = ((src.len - src.off : Nat) : Int) := by simp only [remSrc, hs]
  have e2 : (emitSrc s src).2.samples = s.samples + 1 ∧
      (emitSrc s src).2.delaySamples = s.delaySamples := ⟨rfl, rfl⟩
  unfold horizon
  rw [e1, remSrc_emitSrc s src hlt, e2.1, e2.2]
  omega

theorem remSrc_of_done {s : QState} (h : srcDone s) : remSrc s = 0 := by
  unfold remSrc
  cases hs : s.source with
  | none => rfl
  | some src => have := h src hs; simp only; omega

/-- a trial started when nothing is playing and no delay is pending begins at the horizon, and the
horizon moves to its end plus its delay -/
theorem TimeInv_nextTrial {s s1 : QState} (hi : TimeInv s) (hsrc : s.source = none)
    (hd : s.delaySamples ≤ 0) (hn : nextTrial s = .ok (some s1)) : TimeInv s1 := by
  obtain ⟨info, e0, hd0, hdel, hdur, hlen, hk, hg, hs1, hdl, hsm⟩ := nextTrial_info hn
  obtain ⟨_, _, hdata⟩ := nextTrial_data hn
  obtain ⟨hdnn, hdle⟩ := hi.durOK info.key e0 hd0
  have hle := hdle info.delay hdel
  have hh1 : horizon s1 = s.samples + (info.len : Int) + info.delay := by
    simp only [horizon, remSrc, hs1, hdl, hsm]; omega
  have hold : ∀ i ∈ s.generated, i.k + i.dur ≤ s.samples := by
    intro i hi'
    have := hi.hor i hi'
    simp only [horizon, remSrc, hsrc] at this; omega
  rw [← hdur] at hdnn hle
  rw [← hlen] at hle
  clear hdle hdel hd0 hdur hlen hn hs1 hdl hsm
  refine ⟨?_, ?_, ?_, ?_⟩
  · rw [hg, List.pairwise_append]
    refine ⟨hi.chain, by simp, ?_⟩
    intro a ha b hb
    simp only [List.mem_singleton] at hb; subst hb
    rw [hk]; exact hold a ha
  · rw [hg, hh1, Int.add_assoc]
    refine forall_mem_snoc (fun i h' =>
      Int.le_trans (hold i h') (Int.le_add_of_nonneg_right (Int.le_trans hdnn hle))) ?_
    rw [hk]; exact Int.add_le_add_left hle _
  · rw [hg]; exact forall_mem_snoc hi.durnn hdnn
  · exact entries_map (f := fun _ e => { e with trials := e.trials - 1, dpos := e.dpos + 1 })
      (fun _ _ h => h) (fun k' => by rw [hdata k']; split; exact Or.inr rfl; exact Or.inl rfl) hi.durOK

theorem TimeInv_tick {s s' : QState} {c : Cell} (hi : TimeInv s) (h : tick s = .ok (c, s')) :
    TimeInv s' := by
  cases tick_cases h with
  | paused _ _ hs => subst hs; exact TimeInv_of_same hi rfl rfl (by simp [horizon, remSrc, bump]; omega)
  | play src _ hsrc hlt he =>
    cases he
    exact TimeInv_of_same hi rfl rfl (Int.le_of_eq (horizon_emitSrc s src hsrc hlt).symm)
  | gap _ hdone hd _ hs =>
    subst hs
    refine TimeInv_of_same hi rfl rfl ?_
    unfold horizon; rw [remSrc_of_done hdone]; simp only [remSrc, bump, dropSrc]; omega
  | dry _ hdone hd _ _ hs =>
    subst hs
    refine TimeInv_of_same hi rfl rfl ?_
    unfold horizon; rw [remSrc_of_done hdone]; simp only [remSrc, bump, dropSrc]; omega
  | start s1 src _ hdone hd hn hsrc hlt he =>
    have h0 : TimeInv (dropSrc s) := TimeInv_of_same hi rfl rfl (by
      unfold horizon; rw [remSrc_of_done hdone]; simp only [remSrc, dropSrc]; omega)
    cases he
    exact TimeInv_of_same (TimeInv_nextTrial h0 rfl hd hn) rfl rfl
      (Int.le_of_eq (horizon_emitSrc s1 src hsrc hlt).symm)

/-- re-queueing only changes counters -/
theorem requeue_entries {P : Entry → Prop} (hP : ∀ (e : Entry) (t : Int), P e → P { e with trials := t })
    {d : List Entry} (keys : List Nat) (h : ∀ (i : Nat) (e : Entry), d[i]? = some e → P e) :
    ∀ (i : Nat) (e : Entry), (keys.foldl (fun d k => setTrials d k (· + 1)) d)[i]? = some e → P e :=
  entries_map (f := fun k e => { e with trials := e.trials + ((keys.count k : Nat) : Int) })
    (fun _ e h => hP e _ h) (fun k => Or.inr (foldl_setTrials_get keys d k)) h

theorem DurOK_requeue {d : List Entry} (keys : List Nat) (h : DurOK d) :
    DurOK (keys.foldl (fun d k => setTrials d k (· + 1)) d) :=
  requeue_entries (fun _ _ h => h) keys h

theorem DelaysOK_requeue {d : List Entry} (keys : List Nat) (h : DelaysOK d) :
    DelaysOK (keys.foldl (fun d k => setTrials d k (· + 1)) d) :=
  requeue_entries (fun _ _ h => h) keys h

theorem TimeInv_pause (m : Option Int) {s : QState} (hi : TimeInv s) (hc : OpMono s (.pause m)) :
    TimeInv (pause m s).1 := by
  cases m with
  | none => exact TimeInv_of_same (s := s) hi rfl rfl (Int.le_refl _)
  | some m =>
    have hm : m ≤ s.samples := hc
    obtain ⟨hd, hg, _, _, hsrc, hdl, _, hsm, _⟩ := pause_fields m s
    rw [if_neg (Int.not_lt.mpr hm)] at hsm
    refine ⟨?_, ?_, ?_, ?_⟩
    · rw [hg]; exact hi.chain.sublist List.filter_sublist
    · intro i hi'
      rw [hg] at hi'
      simp only [List.mem_filter, endsAfter, Bool.not_eq_true', decide_eq_false_iff_not] at hi'
      simp only [horizon, remSrc, hsrc, hdl, hsm]
      omega
    · intro i hi'
      rw [hg] at hi'
      exact hi.durnn i (List.mem_filter.mp hi').1
    · rw [hd]; exact DurOK_requeue _ hi.durOK

theorem TimeInv_resume (m : Option Int) {s : QState} (hi : TimeInv s) (hc : OpMono s (.resume m)) :
    TimeInv (resume m s) := by
  cases m with
  | none => exact TimeInv_of_same (s := s) hi rfl rfl (Int.le_refl _)
  | some m =>
    have hm : s.samples ≤ m := hc
    exact TimeInv_of_same (s := s) hi rfl rfl (by simp only [resume, horizon, remSrc]; omega)

theorem requeue_frame (m : Int) (s : QState) :
    requeue m s = { s with
      ordering := insertFront s.ordering (toRequeue m s),
      data := (toRequeue m s).foldl (fun d k => setTrials d k (· + 1)) s.data,
      generated := s.generated.filter (fun i => !endsAfter m i),
      empty := if (toRequeue m s).isEmpty then s.empty else false,
      complete := (requeue m s).complete } := by
  unfold requeue toRequeue
  cases s.kind <;> dsimp only <;> (try split) <;> rfl

theorem requeue_complete (m : Int) (s : QState) (hk : s.kind = .interleaved ∨ s.kind = .blockedRandom) :
    (requeue m s).complete =
      if ((toRequeue m s).foldl (fun d k => setTrials d k (· + 1)) s.data).any
          (fun e => decide (e.trials > 0)) then false else s.complete := by
  unfold requeue toRequeue
  rcases hk with hk | hk <;> simp only [hk] <;> split <;> rfl

theorem pause_some_eq (m : Int) (s : QState) :
    ∃ x, (pause (some m) s).1 = { requeue m (cancel m { s with paused := true }) with samples := x } := by
  unfold pause
  simp only
  split
  · exact ⟨_, rfl⟩
  · exact ⟨m, rfl⟩

/-- what `pause(m)` does to the policy state (whether or not the position is accepted) -/
theorem pause_policy (m : Int) (s : QState) :
    (pause (some m) s).1.ordering = insertFront s.ordering (toRequeue m s) ∧
    (pause (some m) s).1.data = (toRequeue m s).foldl (fun d k => setTrials d k (· + 1)) s.data ∧
    (pause (some m) s).1.generated = s.generated.filter (fun i => !endsAfter m i) ∧
    (pause (some m) s).1.kind = s.kind ∧ (pause (some m) s).1.keep = s.keep ∧
    (pause (some m) s).1.gsize = s.gsize ∧ (pause (some m) s).1.cursor = s.cursor ∧
    (pause (some m) s).1.block = s.block ∧ (pause (some m) s).1.perms = s.perms ∧
    (pause (some m) s).1.draws = s.draws ∧ (pause (some m) s).1.added = s.added ∧
    (s.kind = .interleaved ∨ s.kind = .blockedRandom → (pause (some m) s).1.complete =
      if ((toRequeue m s).foldl (fun d k => setTrials d k (· + 1)) s.data).any
          (fun e => decide (e.trials > 0)) then false else s.complete) := by
  obtain ⟨x, e⟩ := pause_some_eq m s
  rw [e, requeue_frame]
  exact ⟨rfl, rfl, rfl, rfl, rfl, rfl, rfl, rfl, rfl, rfl, rfl,
    requeue_complete m (cancel m { s with paused := true })⟩

theorem toRequeue_reverse (m : Int) (s : QState) :
    (toRequeue m s).reverse = (s.generated.filter (endsAfter m)).map (·.key) := by
  simp [toRequeue, List.filter_reverse, List.map_reverse]

theorem toRequeue_lt {n : Nat} {s : QState} (hgk : ∀ i ∈ s.generated, i.key < n) (m : Int) :
    ∀ k ∈ toRequeue m s, k < n := by
  intro k hk
  simp only [toRequeue, List.mem_map, List.mem_filter, List.mem_reverse] at hk
  obtain ⟨i, ⟨hi, _⟩, rfl⟩ := hk
  exact hgk i hi

theorem insertFront_of_mem (o : List Nat) (keys : List Nat) (h : ∀ k ∈ keys, k ∈ o) :
    insertFront o keys = o := by
  induction keys with
  | nil => rfl
  | cons k ks ih =>
    have hc : o.contains k = true := by simpa using h k (by simp)
    simp only [insertFront, List.foldl_cons, hc, if_true]
    exact ih (fun k' hk' => h k' (by simp [hk']))

theorem trv_le_requeue (keys : List Nat) (d : List Entry) (k : Nat) :
    trv d k ≤ trv (keys.foldl (fun d k => setTrials d k (· + 1)) d) k := by
  unfold trv
  rw [foldl_setTrials_get]
  cases d[k]? with
  | none => exact Int.le_refl 0
  | some e => exact Int.le_add_of_nonneg_right (Int.natCast_nonneg _)

theorem filter_split_of_mono {α : Type} (P : α → Bool) (l : List α)
    (h : l.Pairwise (fun a b => P a = true → P b = true)) :
    l = l.filter (fun a => !P a) ++ l.filter P := by
  induction l with
  | nil => rfl
  | cons a l ih =>
    rw [List.pairwise_cons] at h
    by_cases hp : P a = true
    · have hall : ∀ b ∈ l, P b = true := fun b hb => h.1 b hb hp
      have h1 : l.filter (fun a => !P a) = [] := by
        rw [List.filter_eq_nil_iff]; intro b hb; simp [hall b hb]
      have h2 : l.filter P = l := List.filter_eq_self.mpr hall
      simp [hp, h1, h2]
    · have hp' : P a = false := by simpa using hp
      simp only [List.filter_cons, hp', Bool.not_false, if_true, Bool.false_eq_true, if_false,
        List.cons_append]
      rw [← ih h.2]

theorem cancelled_suffix {s : QState} (hi : TimeInv s) (m : Int) :
    s.generated = s.generated.filter (fun i => !endsAfter m i) ++ s.generated.filter (endsAfter m) := by
  apply filter_split_of_mono
  refine hi.chain.imp_of_mem ?_
  intro a b _ hb h1 ha
  have h2 := hi.durnn b hb
  simp only [endsAfter, decide_eq_true_eq] at ha ⊢
  omega

end Psi.Queue

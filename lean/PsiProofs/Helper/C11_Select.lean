import PsiProofs.Helper.C11_Getitem
import PsiProofs.Helper.C11_Cart
/-! The index expressions of the properties on one-, two- and three-dimensional arrays: NumPy's pairing of entries and
axes (`npGetitem_*`), then time slices `x[..., s]` and selections `x[it]`, `x[:, it]`, `x[eIt, cIt, ts]` as instances
of `getitem_1d/2d/3d`. -/
namespace Psi.PData

theorem wrapAll_lt {l : List Int} {n : Nat} {ps : List Nat} (h : wrapAll l n = .ok ps) : ∀ p ∈ ps, p < n := by
  induction l generalizing ps with
  | nil => cases h; simp
  | cons x xs ih =>
    simp only [wrapAll, List.mapM_cons, bind, Except.bind] at h
    split at h
    · cases h
    · rename_i p hp
      split at h
      · cases h
      · rename_i qs hq
        cases h
        intro q hq'
        simp only [List.mem_cons] at hq'
        rcases hq' with rfl | hq'
        · exact wrapIndex_lt hp
        · exact ih hq q hq'

theorem trueIdx_lt (m : List Bool) (pos : Nat) : ∀ p ∈ trueIdx pos m, p < pos + m.length := by
  induction m generalizing pos with
  | nil => simp [trueIdx]
  | cons b bs ih =>
    intro p hp
    simp only [trueIdx, List.mem_append] at hp
    rcases hp with hp | hp
    · split at hp <;> simp at hp; subst hp; simp
    · have := ih (pos + 1) p hp; simp; omega

theorem maskPositions_lt {m : List Bool} {n : Nat} {ps : List Nat} (h : maskPositions m n = .ok ps) : ∀ p ∈ ps, p < n := by
  unfold maskPositions at h
  split at h
  · cases h; rename_i hl; intro p hp; have := trueIdx_lt m 0 p hp; omega
  · cases h

theorem slicePositions_pos_lt {s : PySlice} {n : Nat} {ps : List Nat} (k : Int) (hk : 0 < k) (hs : s.step.getD 1 = k)
    (h : slicePositions s n = .ok ps) : ∀ p ∈ ps, p < n := by
  rw [slicePositions_pos s n k hk hs] at h
  cases h
  intro p hp
  simp only [List.mem_map, List.mem_range] at hp
  obtain ⟨j, hj, rfl⟩ := hp
  have hb := stopNat_le s n
  unfold sliceLen at hj
  simp only [hk, ↓reduceIte] at hj
  split at hj
  · rename_i hlt
    have h1 : (j : Int) ≤ ((stopNat s n : Int) - (startNat s n : Int) - 1) / k := by omega
    have h2 : ((stopNat s n : Int) - (startNat s n : Int) - 1) / k * k ≤ (stopNat s n : Int) - (startNat s n : Int) - 1 :=
      Int.ediv_mul_le _ (by omega)
    have h3 : (j : Int) * k ≤ ((stopNat s n : Int) - (startNat s n : Int) - 1) / k * k :=
      Int.mul_le_mul_of_nonneg_right h1 (by omega)
    omega
  · omega

theorem listTake_trueIdx_all {α} (l : List α) (m : List Bool) (h : m.all id = true) (hl : m.length = l.length) :
    listTake l (trueIdx 0 m) = l := by
  rw [trueIdx_all m h 0, hl, ← List.range_eq_range']
  exact listTake_range l

theorem listTake_length {α} (l : List α) (ps : List Nat) (h : ∀ p ∈ ps, p < l.length) : (listTake l ps).length = ps.length := by
  induction ps with
  | nil => simp [listTake]
  | cons p ps ih =>
    have hp : p < l.length := h p (by simp)
    simp only [listTake, List.filterMap_cons, List.getElem?_eq_getElem hp, List.length_cons]
    exact congrArg (· + 1) (ih fun q hq => h q (by simp [hq]))

theorem NSel.fancy_lt {n : Nat} {ni : NItem} {ps : List Nat} (h : NSel n ni (.fancy ps)) : ∀ p ∈ ps, p < n := by
  cases h with
  | ilist hp => exact wrapAll_lt hp
  | blist hp => exact maskPositions_lt hp
  | blistNil => simp
  | all => intro p hp; simpa using hp

theorem NSel.lt {n : Nat} {ni : NItem} {sel : Sel} (h : NSel n ni sel) (hns : ∀ s, ni ≠ .slice s) :
    ∀ p ∈ sel.positions, p < n := by
  cases h with
  | @int i p hp => intro q hq; simp only [Sel.positions, List.mem_singleton] at hq; subst hq; exact wrapIndex_lt hp
  | @slice s ps hp => exact absurd rfl (hns s)
  | all => exact absurd rfl (hns _)
  | ilist hp => exact (NSel.ilist hp).fancy_lt
  | blist hp => exact (NSel.blist hp).fancy_lt
  | blistNil => simp [Sel.positions]

theorem itemSel_slice {s : PySlice} {n : Nat} {ps : List Nat} (h : slicePositions s n = .ok ps) :
    itemSel (.slice s) n = .ok (.basic ps) := by simp [itemSel, h, Except.map]

theorem itemSel_all (n : Nat) : itemSel (.slice .all) n = .ok (.basic (List.range n)) :=
  itemSel_slice (slicePositions_all n)

section
variable {a b t : Item} {e c n : Nat} {sE sC sT : Sel}

theorem assignAxes_1 (ht : t.consumes = true) (hT : itemSel t n = .ok sT) :
    assignAxes [t] ([n].zip (strides [n])) = .ok [(sT, 1)] := by
  simp [assignAxes, strides, ht, hT, Except.map]

theorem assignAxes_2 (hb : b.consumes = true) (ht : t.consumes = true) (hC : itemSel b c = .ok sC)
    (hT : itemSel t n = .ok sT) : assignAxes [b, t] ([c, n].zip (strides [c, n])) = .ok [(sC, n), (sT, 1)] := by
  simp [assignAxes, strides, hb, ht, hC, hT, Except.map]

theorem assignAxes_3 (ha : a.consumes = true) (hb : b.consumes = true) (ht : t.consumes = true)
    (hE : itemSel a e = .ok sE) (hC : itemSel b c = .ok sC) (hT : itemSel t n = .ok sT) :
    assignAxes [a, b, t] ([e, c, n].zip (strides [e, c, n])) = .ok [(sE, c * n), (sC, n), (sT, 1)] := by
  simp [assignAxes, strides, ha, hb, ht, hE, hC, hT, Except.map]

/-- The advanced entries of an index of one or two entries, or of three with a slice last, are adjacent
(`itemsAdjacent_one`, `_two`, `_three`). -/
theorem itemsAdjacent_one (a : Item) : itemsAdjacent [a] = true := by
  cases h : a.isAdv <;> simp [itemsAdjacent, List.dropWhile, h]

theorem itemsAdjacent_two (a b : Item) : itemsAdjacent [a, b] = true := by
  cases ha : a.isAdv <;> cases hb : b.isAdv <;> simp [itemsAdjacent, List.dropWhile, ha, hb]

theorem itemsAdjacent_three (a b : Item) (ts : PySlice) : itemsAdjacent [a, b, .slice ts] = true := by
  have hs : (Item.slice ts).isAdv = false := rfl
  cases ha : a.isAdv <;> cases hb : b.isAdv <;> simp [itemsAdjacent, List.dropWhile, ha, hb, hs]

theorem npGetitem_1d (ht : t.consumes = true) (hT : itemSel t n = .ok sT) :
    npGetitem [n] [t] = npOfSels [(sT, 1)] := by
  rw [npGetitem_consuming _ _ (by simpa using ht) (by simp) (itemsAdjacent_one t)]
  simp [assignAxes_1 ht hT]

theorem npGetitem_2d (hb : b.consumes = true) (hC : itemSel b c = .ok sC) :
    npGetitem [c, n] [b] = npOfSels [(sC, n), (.basic (List.range n), 1)] := by
  rw [npGetitem_consuming _ _ (by simpa using hb) (by simp) (itemsAdjacent_one b)]
  simp [assignAxes_2 hb rfl hC (itemSel_all n)]

theorem npGetitem_3d_one (ha : a.consumes = true) (hE : itemSel a e = .ok sE) :
    npGetitem [e, c, n] [a] = npOfSels [(sE, c * n), (.basic (List.range c), n), (.basic (List.range n), 1)] := by
  rw [npGetitem_consuming _ _ (by simpa using ha) (by simp) (itemsAdjacent_one a)]
  simp [assignAxes_3 ha rfl rfl hE (itemSel_all c) (itemSel_all n)]

theorem npGetitem_3d_two (ha : a.consumes = true) (hb : b.consumes = true) (hE : itemSel a e = .ok sE)
    (hC : itemSel b c = .ok sC) :
    npGetitem [e, c, n] [a, b] = npOfSels [(sE, c * n), (sC, n), (.basic (List.range n), 1)] := by
  rw [npGetitem_consuming _ _ (by simp [ha, hb]) (by simp) (itemsAdjacent_two a b)]
  simp [assignAxes_3 ha hb rfl hE hC (itemSel_all n)]

theorem npGetitem_3d_three (ha : a.consumes = true) (hb : b.consumes = true) {ts : PySlice} {tps : List Nat}
    (hE : itemSel a e = .ok sE) (hC : itemSel b c = .ok sC) (hT : slicePositions ts n = .ok tps) :
    npGetitem [e, c, n] [a, b, .slice ts] = npOfSels [(sE, c * n), (sC, n), (.basic tps, 1)] := by
  rw [npGetitem_consuming _ _ (by simp [ha, hb, show (Item.slice ts).consumes = true from rfl]) (by simp) (itemsAdjacent_three a b ts)]
  simp [assignAxes_3 ha hb rfl hE hC (itemSel_slice hT)]
end

def axis (n st : Nat) : List Nat := (List.range n).map (· * st)

theorem npGetitem_tslice_1d {s : PySlice} {n : Nat} {ps : List Nat} (h : slicePositions s n = .ok ps) :
    npGetitem [n] [.ellipsis, .slice s] = npOfSels [(.basic ps, 1)] := by
  rw [npGetitem_ellipsis _ _ (by simp)]
  simp [assignAxes_1 rfl (itemSel_slice h)]

theorem npGetitem_tslice_2d {s : PySlice} {c n : Nat} {ps : List Nat} (h : slicePositions s n = .ok ps) :
    npGetitem [c, n] [.ellipsis, .slice s] = npOfSels [(.basic (List.range c), n), (.basic ps, 1)] := by
  rw [npGetitem_ellipsis _ _ (by simp)]
  simp [assignAxes_2 rfl rfl (itemSel_all c) (itemSel_slice h)]

theorem npGetitem_tslice_3d {s : PySlice} {e c n : Nat} {ps : List Nat} (h : slicePositions s n = .ok ps) :
    npGetitem [e, c, n] [.ellipsis, .slice s] =
      npOfSels [(.basic (List.range e), c * n), (.basic (List.range c), n), (.basic ps, 1)] := by
  rw [npGetitem_ellipsis _ _ (by simp)]
  simp [List.replicate, assignAxes_3 rfl rfl rfl (itemSel_all e) (itemSel_all c) (itemSel_slice h)]

theorem npOfSels_basic1 (p : List Nat) (s : Nat) :
    npOfSels [(.basic p, s)] = .ok ⟨0, [p.map (· * s)], [(.basic p, s)]⟩ := rfl

theorem npOfSels_basic2 (p q : List Nat) (s r : Nat) :
    npOfSels [(.basic p, s), (.basic q, r)] = .ok ⟨0, [p.map (· * s), q.map (· * r)], [(.basic p, s), (.basic q, r)]⟩ := rfl

theorem npOfSels_basic3 (p q u : List Nat) (s r v : Nat) :
    npOfSels [(.basic p, s), (.basic q, r), (.basic u, v)] =
      .ok ⟨0, [p.map (· * s), q.map (· * r), u.map (· * v)], [(.basic p, s), (.basic q, r), (.basic u, v)]⟩ := rfl

theorem offsets_base0 (axes : List (List Nat)) (sels : List (Sel × Nat)) : (NPSel.mk 0 axes sels).offsets = cart axes := by
  simp [NPSel.offsets]

/-- a lone list or mask steps through its positions: nothing is broadcast. -/
theorem advGroup_single (ps : List Nat) (st : Nat) :
    (List.range ps.length).map (fun j => (if ps.length = 1 then ps.head?.getD 0 else ps[j]?.getD 0) * st) = ps.map (· * st) := by
  apply List.ext_getElem
  · simp
  · intro i h1 h2
    simp at h1 ⊢
    split
    · rename_i h; have : i = 0 := by omega
      subst this
      cases ps with
      | nil => simp at h1
      | cons x xs => simp
    · simp [List.getElem?_eq_getElem h1]

theorem npOfSels_lead2 (sel : Sel) (hne : sel ≠ .new) (q : List Nat) (s r : Nat) :
    ∃ res, npOfSels [(sel, s), (.basic q, r)] = .ok res ∧ res.shape = selShape sel ++ [q.length] := by
  cases sel with
  | new => exact absurd rfl hne
  | idx p => exact ⟨_, rfl, by simp [NPSel.shape, selShape, List.filterMap, plainAxis]⟩
  | basic ps => exact ⟨_, rfl, by simp [NPSel.shape, selShape, List.filterMap, plainAxis]⟩
  | fancy ps => exact ⟨_, rfl, by simp [NPSel.shape, selShape, axesInPlace, plainAxis]⟩

/-- at most one list/mask entry among three: every entry keeps its own axis. -/
theorem npOfSels_single (selE selC : Sel) (tps : List Nat) (se sc : Nat) (hne : selE ≠ .new) (hnc : selC ≠ .new)
    (h1 : ¬ (selE.isFancy = true ∧ selC.isFancy = true)) :
    ∃ sel, npOfSels [(selE, se), (selC, sc), (.basic tps, 1)] = .ok sel ∧
      sel.shape = selShape selE ++ selShape selC ++ [tps.length] := by
  cases selE <;> cases selC <;>
    first
    | exact absurd rfl hne
    | exact absurd rfl hnc
    | exact absurd ⟨rfl, rfl⟩ h1
    | exact ⟨_, rfl, by simp [NPSel.shape, selShape, axesInPlace, plainAxis, List.filterMap]⟩

/-- two list/mask entries: NumPy pairs them element-wise, their axes merge into one of the broadcast length. -/
theorem npOfSels_two (pe pc tps : List Nat) (se sc : Nat) (sel : NPSel)
    (h : npOfSels [(.fancy pe, se), (.fancy pc, sc), (.basic tps, 1)] = .ok sel) :
    ∃ k, sel.shape = [k, tps.length] ∧ (pe.length = k ∧ pc.length = k ↔ pe.length = pc.length) := by
  simp only [npOfSels, Sel.isFancy, List.any_cons, Bool.true_or, ↓reduceIte, broadcastLen] at h
  split at h
  · cases h
  · cases h
  · rename_i k hk
    cases h
    refine ⟨k, by simp [axesInPlace, plainAxis, NPSel.shape], ?_⟩
    split at hk
    · cases hk; omega
    · split at hk
      · cases hk; omega
      · split at hk
        · cases hk; omega
        · cases hk

theorem npGetitem_fancy_3d {it : Item} (hc : it.consumes = true) {e c n : Nat} {ps : List Nat}
    (h : itemSel it e = .ok (.fancy ps)) :
    (npGetitem [e, c, n] [it]).map NPSel.offsets = .ok (cart [ps.map (· * (c * n)), axis c n, List.range n]) := by
  rw [npGetitem_3d_one hc h]
  simp [npOfSels, Sel.isFancy, broadcastLen, axesInPlace, plainAxis, advOffset, NPSel.offsets, Except.map]
  rw [advGroup_single]
  simp [axis]

section
variable (data : List Nat) (s0 : Int) (fs : Rat) (s : PySlice) (k : Int) (ps : List Nat)

theorem scalar_ellipsis (shape : List Nat) : isScalarResult shape [.ellipsis, .slice s] = false := by
  simp [isScalarResult]

theorem slice_t1 (n : Nat) (lab : Label) (m : Md) (hk : 0 < k) (hs : s.step.getD 1 = k) (h : slicePositions s n = .ok ps) :
    ∀ index ∈ [Index.tuple [.ellipsis, .slice s], .one (.slice s)],
      getitem ⟨[n], data, s0, fs, .one lab, .one m⟩ index =
        .ok (.arr ⟨[ps.length], pick data (cart ([] ++ ps.map (· * 1) :: [])), timeS0 s0 s n, timeFs fs s,
          .one lab, .one m⟩) := by
  have hnpE : npGetitem [n] [.ellipsis, .slice s] = _ := (npGetitem_tslice_1d h).trans (npOfSels_basic1 ..)
  have hnpB : npGetitem [n] [.slice s] = _ := (npGetitem_1d rfl (itemSel_slice h)).trans (npOfSels_basic1 ..)
  have hE := getitem_1d data s0 fs (.tuple [.ellipsis, .slice s]) n lab m (normalize_ellipsis_slice s 0)
    (slicePositions_step h) hnpE (by simp [NPSel.shape]) (scalar_ellipsis s _)
  have hB := getitem_1d data s0 fs (.one (.slice s)) n lab m (normalizeIndex_one (.slice s) rfl 0)
    (slicePositions_step h) hnpB (by simp [NPSel.shape]) (by simp [isScalarResult, Index.items])
  simpa [NPSel.shape, offsets_base0, sliceS0_pos _ s _ k hk hs] using And.intro hE hB

theorem slice_t2 (c n : Nat) (l : List Label) (m : Md) (hk : 0 < k) (hs : s.step.getD 1 = k)
    (h : slicePositions s n = .ok ps) :
    getitem ⟨[c, n], data, s0, fs, .many l, .one m⟩ (.tuple [.ellipsis, .slice s]) =
      .ok (.arr ⟨[c, ps.length], pick data (cart ([axis c n] ++ ps.map (· * 1) :: [])), timeS0 s0 s n, timeFs fs s,
        .many l, .one m⟩) := by
  have hnp : npGetitem [c, n] [.ellipsis, .slice s] = _ := (npGetitem_tslice_2d h).trans (npOfSels_basic2 ..)
  have := getitem_2d data s0 fs (.tuple [.ellipsis, .slice s]) c n l m (normalize_ellipsis_slice s 1) .all
    (slicePositions_step h) hnp (scalar_ellipsis s _)
  simpa [NPSel.shape, offsets_base0, selChan, listTake_range, axis, sliceS0_pos _ s _ k hk hs] using this

theorem slice_t3 (e c n : Nat) (l : List Label) (ms : List Md) (hk : 0 < k) (hs : s.step.getD 1 = k)
    (h : slicePositions s n = .ok ps) :
    getitem ⟨[e, c, n], data, s0, fs, .many l, .many ms⟩ (.tuple [.ellipsis, .slice s]) =
      .ok (.arr ⟨[e, c, ps.length], pick data (cart ([axis e (c * n), axis c n] ++ ps.map (· * 1) :: [])),
        timeS0 s0 s n, timeFs fs s, .many l, .many ms⟩) := by
  have hnp : npGetitem [e, c, n] [.ellipsis, .slice s] = _ := (npGetitem_tslice_3d h).trans (npOfSels_basic3 ..)
  have := getitem_3d data s0 fs (.tuple [.ellipsis, .slice s]) e c n l ms (normalize_ellipsis_slice s 2) .all .all
    (slicePositions_step h) hnp (scalar_ellipsis s _)
  simpa [NPSel.shape, offsets_base0, selChan, selMeta, listTake_range, axis, sliceS0_pos _ s _ k hk hs] using this
end

theorem scalar_short {shape : List Nat} {items : List Item} (h : items.length < shape.length) :
    isScalarResult shape items = false := by
  simp [isScalarResult]; omega

section
variable (data : List Nat) (s0 : Int) (fs : Rat) (it : Item) (hit : it.consumes = true) {sel : Sel} {res : NPSel}
include hit

theorem getitem_chan_2d (c n : Nat) (l : List Label) (m : Md) (hl : l.length = c) (h : itemSel it c = .ok sel)
    (hnp : npOfSels [(sel, n), (.basic (List.range n), 1)] = .ok res) :
    getitem ⟨[c, n], data, s0, fs, .many l, .one m⟩ (.one it) =
      .ok (.arr ⟨res.shape, pick data res.offsets, s0, fs, selChan l sel, .one m⟩) :=
  getitem_2d data s0 fs (.one it) c n l m (normalizeIndex_one it hit 1) (hl ▸ itemSel_nsel_head hit h) nofun
    ((npGetitem_2d hit h).trans hnp) (scalar_short (by simp [Index.items]))

theorem getitem_epoch_3d (e c n : Nat) (lc : List Label) (ms : List Md) (hm : ms.length = e)
    (h : itemSel it e = .ok sel)
    (hnp : npOfSels [(sel, c * n), (.basic (List.range c), n), (.basic (List.range n), 1)] = .ok res) :
    getitem ⟨[e, c, n], data, s0, fs, .many lc, .many ms⟩ (.one it) =
      .ok (.arr ⟨res.shape, pick data res.offsets, s0, fs, .many lc, selMeta ms sel⟩) := by
  have := getitem_3d data s0 fs (.one it) e c n lc ms (normalizeIndex_one it hit 2) (hm ▸ itemSel_nsel_head hit h) .all
    nofun
    ((npGetitem_3d_one hit h).trans hnp) (scalar_short (by simp [Index.items]))
  simpa [selChan, listTake_range, sliceS0_all, timeFs_all] using this
end

section
variable (e c n : Nat) (data : List Nat) (s0 : Int) (fs : Rat) (l : List Label) (ms : List Md) (hl : l.length = c)
include hl

theorem getitem_ecs (hm : ms.length = e) (eIt cIt : Item) (he : eIt.simple) (hc : cIt.simple) (ts : PySlice)
    (selE selC : Sel) (hE : itemSel eIt e = .ok selE) (hC : itemSel cIt c = .ok selC) (hts : ts.step ≠ some 0)
    (sel : NPSel) (hnp : npGetitem [e, c, n] [eIt, cIt, .slice ts] = .ok sel) :
    getitem ⟨[e, c, n], data, s0, fs, .many l, .many ms⟩ (.tuple [eIt, cIt, .slice ts]) =
      .ok (.arr ⟨sel.shape, pick data sel.offsets, sliceS0 s0 ts n, timeFs fs ts, selChan l selC, selMeta ms selE⟩) := by
  have hn : normalizeIndexG true (.tuple [eIt, cIt, .slice ts]) 3 = .ok [eIt.toN, cIt.toN, .slice ts] := by
    exact normTuple_simple [eIt, cIt, .slice ts] 3 (by simp only [List.forall_mem_cons]; exact ⟨he, hc, trivial, by simp⟩)
  exact getitem_3d data s0 fs _ e c n l ms hn (hm ▸ itemSel_nsel (Item.simple_flags he).2.1 hE)
    (hl ▸ itemSel_nsel (Item.simple_flags hc).2.1 hC) hts hnp (by simp [isScalarResult, Index.items])

/-- Arrays inside a tuple are refused by `normalize_index` with a `ValueError`, hence `it.simple`. -/
theorem getitem_chan_3d (it : Item) (hs : it.simple) {sel : Sel} {res : NPSel} (h : itemSel it c = .ok sel)
    (hnp : npOfSels [(.basic (List.range e), c * n), (sel, n), (.basic (List.range n), 1)] = .ok res) :
    getitem ⟨[e, c, n], data, s0, fs, .many l, .many ms⟩ (.tuple [.slice .all, it]) =
      .ok (.arr ⟨res.shape, pick data res.offsets, s0, fs, selChan l sel, .many ms⟩) := by
  have hit := (Item.simple_flags hs).2.1
  have hn : normalizeIndexG true (.tuple [.slice .all, it]) 3 = .ok [.slice .all, it.toN, .slice .all] := by
    exact normTuple_simple [.slice .all, it] 3 (by simp only [List.forall_mem_cons]; exact ⟨trivial, hs, by simp⟩)
  have := getitem_3d data s0 fs _ e c n l ms hn (.slice (slicePositions_all _)) (hl ▸ itemSel_nsel hit h)
    nofun
    ((npGetitem_3d_two rfl hit (itemSel_all e) h).trans hnp) (scalar_short (by simp [Index.items]))
  simpa [selMeta, listTake_range, sliceS0_all, timeFs_all] using this
end

end Psi.PData

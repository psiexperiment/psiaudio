import PsiProofs.Helper.C07_Lemmas
/-! `lfilter` (direct form II transposed) commutes with every map that respects the arithmetic of one filter
step (`LfilterHom`): a gain over ℝ, negation over a sign-symmetric arithmetic.  Over ℝ it is additive in
(state, input). -/
namespace Psi.Db

section Step
variable {α : Type} [DbField α]
-- instance search otherwise walks Mathlib's algebraic hierarchy before it finds these
attribute [local instance 1100] DbField.toAdd DbField.toSub DbField.toMul DbField.toNeg

def stateHead (z : List α) (x : α) : α :=
  match z with
  | [] => nat 0 * x
  | z0 :: _ => z0

theorem lfilterStep_eq (b0 : α) (bt atl z : List α) (x : α) :
    lfilterStep b0 bt atl z x =
      (stateHead z x + b0 * x, zipStep x (stateHead z x + b0 * x) (shiftState z) bt atl) := by
  cases z <;> rfl

theorem zipStep_eq_zipWith (x y : α) (zs bs as : List α) :
    zipStep x y zs bs as = List.zipWith (fun z p => z + p.1 * x - p.2 * y) zs (bs.zip as) := by
  induction zs generalizing bs as with
  | nil => rfl
  | cons z zs ih =>
    cases bs with
    | nil => rfl
    | cons b bs =>
      cases as with
      | nil => rfl
      | cons a as => exact congrArg (_ :: ·) (ih bs as)

theorem zipStep_length (x y : α) (zs bs as : List α) :
    (zipStep x y zs bs as).length = min zs.length (min bs.length as.length) := by
  rw [zipStep_eq_zipWith, List.length_zipWith, List.length_zip]

theorem zipStep_drop (x y : α) (i : ℕ) (zs bs as : List α) :
    (zipStep x y zs bs as).drop i = zipStep x y (zs.drop i) (bs.drop i) (as.drop i) := by
  rw [zipStep_eq_zipWith, zipStep_eq_zipWith, List.drop_zipWith, List.zip_eq_zipWith, List.zip_eq_zipWith,
    List.drop_zipWith]

theorem shiftState_length (z : List α) : (shiftState z).length = (z.length - 1) + 1 := by
  rw [shiftState, List.length_append, List.length_drop, List.length_singleton]

structure LfilterHom (φ : α → α) : Prop where
  map_add : ∀ a b, φ (a + b) = φ a + φ b
  map_sub : ∀ a b, φ (a - b) = φ a - φ b
  map_mul : ∀ b x, φ (b * x) = b * φ x
  map_zero : φ (nat 0) = nat 0

variable {φ : α → α} (h : LfilterHom φ)
include h

theorem zipStep_hom (x y : α) (zs bs as : List α) :
    zipStep (φ x) (φ y) (zs.map φ) bs as = (zipStep x y zs bs as).map φ := by
  rw [zipStep_eq_zipWith, zipStep_eq_zipWith, List.zipWith_map_left, List.map_zipWith]
  congr 1
  funext z p
  rw [h.map_sub, h.map_add, h.map_mul, h.map_mul]

theorem shiftState_hom (z : List α) : shiftState (z.map φ) = (shiftState z).map φ := by
  rw [shiftState, shiftState, List.map_append, List.map_drop, List.map_singleton, h.map_zero]

theorem stateHead_hom (z : List α) (x : α) : stateHead (z.map φ) (φ x) = φ (stateHead z x) := by
  cases z with
  | nil => exact (h.map_mul _ _).symm
  | cons z0 zt => rfl

theorem lfilterStep_hom (b0 : α) (bt atl z : List α) (x : α) :
    lfilterStep b0 bt atl (z.map φ) (φ x) =
      (φ (lfilterStep b0 bt atl z x).1, (lfilterStep b0 bt atl z x).2.map φ) := by
  rw [lfilterStep_eq, lfilterStep_eq, stateHead_hom h, shiftState_hom h, ← h.map_mul, ← h.map_add,
    zipStep_hom h]

theorem lfilter_hom (b0 : α) (bt atl : List α) (z xs : List α) :
    lfilter b0 bt atl (z.map φ) (xs.map φ) =
      ((lfilter b0 bt atl z xs).1.map φ, (lfilter b0 bt atl z xs).2.map φ) := by
  induction xs generalizing z with
  | nil => rfl
  | cons x xs ih => simp only [List.map_cons, lfilter, lfilterStep_hom h, ih]

theorem zeroState_hom (n : ℕ) : (zeroState n : List α).map φ = zeroState n := by
  rw [zeroState, List.map_replicate, h.map_zero]

end Step

theorem scaleHom (c : ℝ) : LfilterHom (c * ·) :=
  ⟨mul_add c, mul_sub c, mul_left_comm c, by rw [nat_real, Nat.cast_zero, mul_zero]⟩

section Sign
attribute [local instance 1100] DbField.toAdd DbField.toSub DbField.toMul DbField.toNeg

/-- What exact polarity needs from the arithmetic.  IEEE-754 round-to-nearest satisfies these laws (values
compared numerically, i.e. `-0 = 0`). -/
class SignSymm (α : Type) [DbField α] : Prop where
  neg_mul : ∀ a b : α, (-a) * b = -(a * b)
  mul_neg : ∀ a b : α, a * (-b) = -(a * b)
  neg_add : ∀ a b : α, (-a) + (-b) = -(a + b)
  neg_sub : ∀ a b : α, (-a) - (-b) = -(a - b)
  neg_zero : -(nat 0 : α) = nat 0
  one_mul : ∀ a : α, nat 1 * a = a
  mul_one : ∀ a : α, a * nat 1 = a

end Sign

instance : SignSymm ℝ where
  neg_mul a b := by ring
  mul_neg a b := by ring
  neg_add a b := by ring
  neg_sub a b := by ring
  neg_zero := by simp
  one_mul a := by simp
  mul_one a := by simp

section Sign
variable {α : Type} [DbField α] [SignSymm α]
attribute [local instance 1100] DbField.toAdd DbField.toSub DbField.toMul DbField.toNeg

theorem negHom : LfilterHom (- · : α → α) :=
  ⟨fun a b => (SignSymm.neg_add a b).symm, fun a b => (SignSymm.neg_sub a b).symm,
    fun b x => (SignSymm.mul_neg b x).symm, SignSymm.neg_zero⟩

end Sign

def ladd (a b : List ℝ) : List ℝ := List.zipWith (· + ·) a b

theorem zipStep_add (x1 x2 y1 y2 : ℝ) (zs1 zs2 bs as : List ℝ) :
    zipStep (x1 + x2) (y1 + y2) (ladd zs1 zs2) bs as
      = ladd (zipStep x1 y1 zs1 bs as) (zipStep x2 y2 zs2 bs as) := by
  rw [zipStep_eq_zipWith, zipStep_eq_zipWith, zipStep_eq_zipWith]
  generalize bs.zip as = ps
  induction zs1 generalizing zs2 ps with
  | nil => rfl
  | cons z1 zs1 ih =>
    cases zs2 with
    | nil => simp only [ladd, List.zipWith_nil_left, List.zipWith_nil_right]
    | cons z2 zs2 =>
      cases ps with
      | nil => rfl
      | cons p ps =>
        simp only [ladd, List.zipWith_cons_cons] at ih ⊢
        rw [ih]; congr 1; ring

theorem shiftState_add (z1 z2 : List ℝ) (h : z1.length = z2.length) :
    shiftState (ladd z1 z2) = ladd (shiftState z1) (shiftState z2) := by
  have hd : (z1.drop 1).length = (z2.drop 1).length := by rw [List.length_drop, List.length_drop, h]
  rw [shiftState, shiftState, shiftState, ladd, ladd, List.drop_zipWith, List.zipWith_append hd]
  simp only [List.zipWith_cons_cons, List.zipWith_nil_left, nat_real, Nat.cast_zero, add_zero]

theorem stateHead_add (z1 z2 : List ℝ) (x1 x2 : ℝ) (h : z1.length = z2.length) :
    stateHead (ladd z1 z2) (x1 + x2) = stateHead z1 x1 + stateHead z2 x2 := by
  cases z1 with
  | nil =>
    cases z2 with
    | nil => show nat 0 * (x1 + x2) = nat 0 * x1 + nat 0 * x2; ring
    | cons _ _ => cases h
  | cons a z1 =>
    cases z2 with
    | nil => cases h
    | cons b z2 => rfl

section Superpose
variable (b0 : ℝ) (bt atl : List ℝ)

theorem lfilterStep_add (z1 z2 : List ℝ) (a b : ℝ) (hz : z1.length = z2.length) :
    lfilterStep b0 bt atl (ladd z1 z2) (a + b)
      = ((lfilterStep b0 bt atl z1 a).1 + (lfilterStep b0 bt atl z2 b).1,
         ladd (lfilterStep b0 bt atl z1 a).2 (lfilterStep b0 bt atl z2 b).2) := by
  have e : stateHead z1 a + stateHead z2 b + b0 * (a + b)
      = (stateHead z1 a + b0 * a) + (stateHead z2 b + b0 * b) := by ring
  rw [lfilterStep_eq, lfilterStep_eq, lfilterStep_eq, stateHead_add z1 z2 a b hz, shiftState_add z1 z2 hz, e,
    zipStep_add]

theorem lfilterStep_length (z : List ℝ) (x : ℝ) :
    (lfilterStep b0 bt atl z x).2.length = min (z.length - 1 + 1) (min bt.length atl.length) := by
  rw [lfilterStep_eq, zipStep_length, shiftState_length]

theorem lfilter_add (z1 z2 x1 x2 : List ℝ) (hz : z1.length = z2.length)
    (hx : x1.length = x2.length) :
    lfilter b0 bt atl (ladd z1 z2) (ladd x1 x2)
      = (ladd (lfilter b0 bt atl z1 x1).1 (lfilter b0 bt atl z2 x2).1,
         ladd (lfilter b0 bt atl z1 x1).2 (lfilter b0 bt atl z2 x2).2) := by
  induction x1 generalizing x2 z1 z2 with
  | nil =>
    cases x2 with
    | nil => rfl
    | cons _ _ => cases hx
  | cons a x1 ih =>
    cases x2 with
    | nil => cases hx
    | cons b x2 =>
      have hlen : (lfilterStep b0 bt atl z1 a).2.length = (lfilterStep b0 bt atl z2 b).2.length := by
        rw [lfilterStep_length, lfilterStep_length, hz]
      show lfilter b0 bt atl (ladd z1 z2) ((a + b) :: ladd x1 x2) = _
      simp only [lfilter, lfilterStep_add b0 bt atl z1 z2 a b hz, ih _ _ _ hlen (Nat.succ.inj hx)]
      rfl

theorem ladd_map {β : Type} (f h : β → ℝ) (l : List β) :
    ladd (l.map f) (l.map h) = l.map fun b => f b + h b := by
  rw [ladd, List.zipWith_map, List.zipWith_self]

theorem lfilter_gain_fixed_state (g : ℝ) (z x : List ℝ) :
    (lfilter b0 bt atl z (x.map (g * ·))).1
      = ladd ((lfilter b0 bt atl z x).1.map (g * ·))
          ((lfilter b0 bt atl z (x.map fun _ => (0 : ℝ))).1.map ((1 - g) * ·)) := by
  have hin : x.map (g * ·) = ladd (x.map (g * ·)) ((x.map fun _ => (0 : ℝ)).map ((1 - g) * ·)) := by
    rw [List.map_map, ladd_map]
    exact List.map_congr_left fun a _ => by simp only [Function.comp, mul_zero, add_zero]
  have hst : z = ladd (z.map (g * ·)) (z.map ((1 - g) * ·)) := by
    rw [ladd_map]
    exact (List.map_id'' (fun a => by ring) z).symm
  conv_lhs => rw [hin, hst]
  rw [lfilter_add _ _ _ _ _ _ _ (by rw [List.length_map, List.length_map])
    (by rw [List.length_map, List.length_map, List.length_map]), lfilter_hom (scaleHom g),
    lfilter_hom (scaleHom (1 - g))]

end Superpose

end Psi.Db

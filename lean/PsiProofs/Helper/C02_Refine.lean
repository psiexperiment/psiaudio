import PsiProofs.Helper.C02_Frame
import PsiProofs.Helper.C02_Render
/-! The code's `while samples > 0` loop, for any request size and either value of `decrement`, is the
per-sample specification run with that flag: `popLoopG (nextTrialD d) fuel n = runTicksD d n`.
Both `popLoop` and `popLoopND` are instances of `popLoopG`, and `runTicks` is `runTicksD true`. -/
namespace Psi.Queue

theorem tickD_true (s : QState) : tickD true s = tick s := rfl

theorem runTicksD_zero (d : Bool) (s : QState) : runTicksD d 0 s = .ok ([], s) := rfl

theorem runTicksD_succ (d : Bool) (n : Nat) (s : QState) :
    runTicksD d (n + 1) s =
      match tickD d s with
      | .error e => .error e
      | .ok (c, s') =>
        match runTicksD d n s' with
        | .error e => .error e
        | .ok (cs, s'') => .ok (c :: cs, s'') := rfl

theorem runTicksD_true (n : Nat) (s : QState) : runTicksD true n s = runTicks n s := by
  induction n generalizing s with
  | zero => rfl
  | succ n ih =>
    rw [runTicksD_succ, runTicks, tickD_true]
    cases tick s with
    | error e => rfl
    | ok r => obtain ⟨c, s'⟩ := r; simp only [ih]; rfl

theorem runSched_append (a b : List Bool) (s : QState) :
    runSched (a ++ b) s =
      match runSched a s with
      | .error e => .error e
      | .ok (c1, s1) =>
        match runSched b s1 with
        | .error e => .error e
        | .ok (c2, s2) => .ok (c1 ++ c2, s2) := by
  induction a generalizing s with
  | nil =>
    simp only [List.nil_append, runSched]
    cases runSched b s with
    | error e => rfl
    | ok r => cases r; simp
  | cons d a ih =>
    simp only [List.cons_append, runSched]
    cases tickD d s with
    | error e => rfl
    | ok r =>
      obtain ⟨c, s1⟩ := r
      simp only [ih s1]
      cases runSched a s1 with
      | error e => rfl
      | ok r =>
        obtain ⟨c1, s2⟩ := r
        simp only
        cases runSched b s2 with
        | error e => rfl
        | ok r => obtain ⟨c2, s3⟩ := r; simp

theorem runTicksD_add (d : Bool) (j m : Nat) (s : QState) :
    runTicksD d (j + m) s =
      match runTicksD d j s with
      | .error e => .error e
      | .ok (c1, s1) =>
        match runTicksD d m s1 with
        | .error e => .error e
        | .ok (c2, s2) => .ok (c1 ++ c2, s2) := by
  unfold runTicksD
  rw [← List.replicate_append_replicate, runSched_append]

variable {d : Bool}

theorem clock_succ (a : Int) (j : Nat) : a + 1 + (j : Nat) = a + ((j + 1 : Nat) : Int) := by
  rw [Int.natCast_succ, Int.add_assoc, Int.add_comm 1]

theorem runTicksD_paused (j : Nat) (s : QState) (hp : s.paused = true) :
    runTicksD d j s = .ok (zeros j, { s with samples := s.samples + j }) := by
  induction j generalizing s with
  | zero => simp [runTicksD_zero]
  | succ j ih =>
    simp only [runTicksD_succ, tickD, hp, if_true]
    rw [ih (bump s) hp]
    simp only [zeros_succ, bump, clock_succ, hp]

def advance (s : QState) (src : Src) (j : Nat) : QState :=
  { s with source := if src.gen && src.off + j ≥ src.len then none else some { src with off := src.off + j },
           samples := s.samples + j }

theorem runTicksD_src {j : Nat} (hj : 0 < j) (s : QState) (src : Src) (hp : s.paused = false)
    (hs : s.source = some src) (hle : src.off + j ≤ src.len) :
    runTicksD d j s = .ok (wave src.key src.off j, advance s src j) := by
  cases j with
  | zero => exact absurd hj (Nat.lt_irrefl 0)
  | succ j =>
  clear hj
  unfold advance
  induction j generalizing s src with
  | zero =>
    have : src.off < src.len := hle
    simp [runTicksD_succ, runTicksD_zero, tickD, hp, hs, this, emitSrc, bump, wave_succ]
  | succ j ih =>
    have h1 : src.off < src.len := Nat.lt_of_lt_of_le (Nat.lt_add_of_pos_right (Nat.succ_pos _)) hle
    have h2 : ¬ (src.off + 1 ≥ src.len) :=
      Nat.not_le.2 (Nat.lt_of_lt_of_le (Nat.add_lt_add_left (Nat.succ_lt_succ (Nat.succ_pos j)) _) hle)
    rw [runTicksD_succ]
    simp only [tickD, hp, hs, h1, emitSrc, if_true, Bool.false_eq_true, if_false, h2, decide_false,
      Bool.and_false]
    rw [ih _ { src with off := src.off + 1 } rfl rfl
      (by simp only; rw [Nat.add_assoc, Nat.add_comm 1]; exact hle)]
    simp only [bump, wave_succ, clock_succ, Nat.add_assoc, Nat.add_comm 1 (j + 1)]

theorem WF_advance {s : QState} {src : Src} {j : Nat} (hw : WF s) (hs : s.source = some src)
    (hle : src.off + j ≤ src.len) : WF (advance s src j) := by
  refine ⟨hw.data, ?_⟩
  intro src' h'
  obtain ⟨hl, _, _⟩ := hw.src src hs
  simp only [advance] at h'
  split at h'
  · cases h'
  · rename_i hc
    cases h'
    simp only [Bool.and_eq_true, decide_eq_true_eq, not_and] at hc
    exact ⟨hl, hle, fun hg => by have := hc hg; simp only; omega⟩

theorem runTicksD_delay (j : Nat) (s : QState) (hp : s.paused = false) (hs : s.source = none)
    (hd : (j : Int) ≤ s.delaySamples) :
    runTicksD d j s =
      .ok (zeros j, { s with delaySamples := s.delaySamples - j, samples := s.samples + j }) := by
  induction j generalizing s with
  | zero => simp [runTicksD_zero]
  | succ j ih =>
    have hpos : s.delaySamples > 0 := Int.lt_of_lt_of_le (Int.natCast_pos.2 (Nat.succ_pos j)) hd
    simp only [runTicksD_succ, tickD, hp, hs, afterSourceD, hpos, if_true, Bool.false_eq_true, if_false]
    rw [ih _ rfl rfl (by rw [Int.natCast_succ] at hd; exact Int.le_sub_one_of_lt (Int.lt_of_lt_of_le (Int.lt_succ _) hd))]
    simp only [bump, zeros_succ, clock_succ, Int.natCast_succ, Int.sub_sub, Int.add_comm 1]

theorem tickD_empty {s : QState} (hp : s.paused = false) (hs : s.source = none)
    (hd : s.delaySamples ≤ 0) (hk : nextKey s = .ok none) :
    tickD d s = .ok (Cell.Z, bump { s with empty := true }) := by
  have hd' : ¬ s.delaySamples > 0 := Int.not_lt.2 hd
  simp only [tickD, hp, hs, afterSourceD, hd', nextTrialD_none_iff.2 hk, if_false,
    Bool.false_eq_true]

theorem runTicksD_empty (j : Nat) (s : QState) (hp : s.paused = false) (hs : s.source = none)
    (hd : s.delaySamples ≤ 0) (hk : nextKey s = .ok none) :
    runTicksD d (j + 1) s =
      .ok (zeros (j + 1), { s with empty := true, samples := s.samples + (j + 1 : Nat) }) := by
  induction j generalizing s with
  | zero => rw [runTicksD_succ, tickD_empty hp hs hd hk]; rfl
  | succ j ih =>
    rw [runTicksD_succ, tickD_empty hp hs hd hk]
    dsimp only
    rw [ih (bump { s with empty := true }) hp hs hd (nextKey_none_indep (s := s) true (s.samples + 1) hk)]
    simp only [bump, zeros_succ, clock_succ]

theorem runTicks_empty (j : Nat) (s : QState) (hp : s.paused = false) (hs : s.source = none)
    (hd : s.delaySamples ≤ 0) (hk : nextKey s = .ok none) :
    runTicks (j + 1) s = .ok (zeros (j + 1), { s with empty := true, samples := s.samples + (j + 1 : Nat) }) := by
  rw [← runTicksD_true]; exact runTicksD_empty j s hp hs hd hk

theorem runTicksD_leftover {m : Nat} (hm : 0 < m) (s : QState) (src : Src) (hp : s.paused = false)
    (hs : s.source = some src) (hx : ¬ src.off < src.len) :
    runTicksD d m s = runTicksD d m { s with source := none } := by
  cases m with
  | zero => exact absurd hm (Nat.lt_irrefl 0)
  | succ m => simp only [runTicksD_succ, tickD, hp, hs, hx, if_false, Bool.false_eq_true]

abbrev NT := QState → Except Err (Option QState)

/-- `popIter` with `nt` for `next_trial` -/
def popIterG (nt : NT) (n : Nat) (s : QState) : Except Err (List Cell × QState) :=
  if s.paused then
    .ok (zeros n, { s with samples := s.samples + n })
  else match s.source with
  | some src =>
    if src.gen then
      let j := min (src.len - src.off) n
      let off := src.off + j
      .ok (wave src.key src.off j,
           { s with source := if off ≥ src.len then none else some { src with off := off },
                    samples := s.samples + j })
    else
      let rem := src.len - src.off
      if n > rem then
        .ok (wave src.key src.off rem, { s with source := none, samples := s.samples + rem })
      else
        .ok (wave src.key src.off n,
             { s with source := some { src with off := src.off + n }, samples := s.samples + n })
  | none =>
    if s.delaySamples > 0 then
      let j := min s.delaySamples.toNat n
      .ok (zeros j, { s with delaySamples := s.delaySamples - j, samples := s.samples + j })
    else
      match nt s with
      | .error e => .error e
      | .ok none => .ok (zeros n, { s with empty := true, samples := s.samples + n })
      | .ok (some s') => .ok ([], s')

def popLoopG (nt : NT) : Nat → Nat → QState → Except Err (List Cell × QState)
  | _, 0, s => .ok ([], s)
  | 0, _ + 1, _ => .error .fuel
  | fuel + 1, n + 1, s =>
    match popIterG nt (n + 1) s with
    | .error e => .error e
    | .ok (w, s') =>
      match popLoopG nt fuel (n + 1 - w.length) s' with
      | .error e => .error e
      | .ok (ws, s'') => .ok (w ++ ws, s'')

theorem popIter_eq_G (n : Nat) (s : QState) : popIter n s = popIterG nextTrial n s := rfl

theorem popLoop_eq_G (fuel n : Nat) (s : QState) : popLoop fuel n s = popLoopG nextTrial fuel n s := by
  induction fuel generalizing n s with
  | zero => cases n <;> rfl
  | succ fuel ih =>
    cases n with
    | zero => rfl
    | succ n =>
      rw [popLoop, popLoopG, popIter_eq_G]
      cases popIterG nextTrial (n + 1) s with
      | error e => rfl
      | ok r => obtain ⟨w, s'⟩ := r; simp only [ih]; rfl

variable {nt : NT} {n : Nat} {s : QState} {src : Src}

theorem popIterG_paused (hp : s.paused = true) :
    popIterG nt n s = .ok (zeros n, { s with samples := s.samples + n }) := by
  simp only [popIterG, hp, if_true]

theorem popIterG_gen (hp : s.paused = false) (hs : s.source = some src) (hg : src.gen = true) :
    popIterG nt n s = .ok (wave src.key src.off (min (src.len - src.off) n),
      advance s src (min (src.len - src.off) n)) := by
  simp only [popIterG, advance, hp, hs, hg, if_true, Bool.false_eq_true, if_false, Bool.true_and,
    decide_eq_true_eq]

theorem popIterG_arr (hp : s.paused = false) (hs : s.source = some src) (hg : src.gen = false) :
    popIterG nt n s =
      if n > src.len - src.off then
        .ok (wave src.key src.off (src.len - src.off),
          { s with source := none, samples := s.samples + (src.len - src.off : Nat) })
      else .ok (wave src.key src.off n, advance s src n) := by
  simp only [popIterG, advance, hp, hs, hg, Bool.false_eq_true, if_false, Bool.false_and]

theorem popIterG_delay (hp : s.paused = false) (hs : s.source = none) (hd : s.delaySamples > 0) :
    popIterG nt n s = .ok (zeros (min s.delaySamples.toNat n),
      { s with delaySamples := s.delaySamples - (min s.delaySamples.toNat n : Nat),
               samples := s.samples + (min s.delaySamples.toNat n : Nat) }) := by
  simp only [popIterG, hp, hs, hd, if_true, Bool.false_eq_true, if_false]

theorem popIterG_next (hp : s.paused = false) (hs : s.source = none) (hd : ¬ s.delaySamples > 0) :
    popIterG nt n s =
      match nt s with
      | .error e => .error e
      | .ok none => .ok (zeros n, { s with empty := true, samples := s.samples + n })
      | .ok (some s') => .ok ([], s') := by
  simp only [popIterG, hp, hs, hd, if_false, Bool.false_eq_true]

theorem popIterND_eq_G (n : Nat) (s : QState) : popIterND n s = popIterG nextTrialND n s := by
  unfold popIterND
  by_cases hp : s.paused = true
  · rw [if_pos hp, popIter_eq_G, popIterG_paused hp, popIterG_paused hp]
  rw [if_neg hp]
  have hp : s.paused = false := by simpa using hp
  cases hs : s.source with
  | some src =>
    cases hg : src.gen with
    | true => rw [popIter_eq_G, popIterG_gen hp hs hg, popIterG_gen hp hs hg]
    | false => rw [popIter_eq_G, popIterG_arr hp hs hg, popIterG_arr hp hs hg]
  | none =>
    by_cases hd : s.delaySamples > 0
    · simp only [if_pos hd]; rw [popIter_eq_G, popIterG_delay hp hs hd, popIterG_delay hp hs hd]
    · simp only [if_neg hd]; rw [popIterG_next hp hs hd, hs]; rfl

theorem popLoopND_eq_G (fuel n : Nat) (s : QState) :
    popLoopND fuel n s = popLoopG nextTrialND fuel n s := by
  induction fuel generalizing n s with
  | zero => cases n <;> rfl
  | succ fuel ih =>
    cases n with
    | zero => rfl
    | succ n =>
      rw [popLoopND, popLoopG, popIterND_eq_G]
      cases popIterG nextTrialND (n + 1) s with
      | error e => rfl
      | ok r => obtain ⟨w, s'⟩ := r; simp only [ih]; rfl

/-- number of zero-sample loop iterations possible before the next emission -/
def slack (s : QState) : Nat :=
  if s.paused then 0 else
  match s.source with
  | some src => if src.off < src.len then 0 else 2
  | none => if s.delaySamples > 0 then 0 else 1

theorem slack_le (s : QState) : slack s ≤ 2 := by
  unfold slack; split <;> (try split) <;> (try split) <;> decide

theorem slack_playing (hp : s.paused = false) (hs : s.source = some src) (hlt : src.off < src.len) :
    slack s = 0 := by
  simp [slack, hp, hs, hlt]

theorem slack_leftover (hp : s.paused = false) (hs : s.source = some src) (hx : ¬ src.off < src.len) :
    slack s = 2 := by
  simp [slack, hp, hs, hx]

theorem slack_none_le (hs : s.source = none) : slack s ≤ 1 := by
  simp only [slack, hs]; split <;> (try split) <;> decide

theorem slack_dry (hp : s.paused = false) (hs : s.source = none) (hd : ¬ s.delaySamples > 0) :
    slack s = 1 := by
  simp [slack, hp, hs, hd]

/-- an iteration that returns no sample and leaves the next tick unchanged -/
theorem silent {fuel n : Nat} {s s' : QState}
    (hrest : popLoop fuel n s' = runTicks n s') (ht : runTicks n s = runTicks n s') :
    (match popLoop fuel (n - ([] : List Cell).length) s' with
      | .error e => .error e
      | .ok (ws, s'') => .ok ([] ++ ws, s'')) = runTicks n s := by
  simp only [List.length_nil, Nat.sub_zero, List.nil_append, hrest, ht]
  cases runTicks n s' with
  | error e => rfl
  | ok r => rfl

theorem fuel_step {n j fuel a b : Nat} (hf : 3 * (n + 1) + a ≤ fuel + 1) (hb : b ≤ 2)
    (h : 0 < j ∨ b < a) : 3 * (n + 1 - j) + b ≤ fuel := by
  apply Nat.le_of_succ_le_succ
  rcases h with h | h
  · -- samples were returned: the three units of fuel they free cover any slack
    have hm : n + 1 - j ≤ n := Nat.le_of_lt_succ (Nat.sub_lt (Nat.succ_pos n) h)
    exact Nat.le_trans (Nat.succ_le_succ (Nat.add_le_add (Nat.mul_le_mul_left 3 hm) hb))
      (Nat.le_trans (Nat.le_add_right (3 * (n + 1)) a) hf)
  · exact Nat.le_trans (Nat.add_lt_add_of_le_of_lt (Nat.mul_le_mul_left 3 (Nat.sub_le _ _)) h) hf

theorem popLoopG_eq_runTicksD (d : Bool) (fuel n : Nat) (s : QState) (hw : WF s)
    (hf : 3 * n + slack s ≤ fuel) :
    popLoopG (nextTrialD d) fuel n s = runTicksD d n s := by
  induction fuel generalizing n s with
  | zero =>
    cases n with
    | zero => rfl
    | succ n => omega
  | succ fuel ih =>
    cases n with
    | zero => rfl
    | succ n =>
      /- One iteration against the specification: it returns the next `j` samples `w` (`j = 0` for a silent
      iteration), and the state `s'` it leaves behaves from then on like the state `s1` the ticks leave (they
      differ when an array source has just been exhausted: the loop holds `None`, the ticks the leftover).
      Fuel: an iteration that returns samples may leave any slack, a silent one lowers it. -/
      have step : ∀ {j : Nat} {w : List Cell} {s1 s' : QState},
          popIterG (nextTrialD d) (n + 1) s = .ok (w, s') → j ≤ n + 1 →
          runTicksD d j s = .ok (w, s1) → w.length = j →
          runTicksD d (n + 1 - j) s1 = runTicksD d (n + 1 - j) s' → WF s' → (0 < j ∨ slack s' < slack s) →
          popLoopG (nextTrialD d) (fuel + 1) (n + 1) s = runTicksD d (n + 1) s := by
        intro j w s1 s' hit hle hrun hlen hsame hw' hsl
        rw [popLoopG, hit]
        conv => rhs; rw [← Nat.add_sub_cancel' hle, runTicksD_add, hrun]
        simp only [hlen, ih (n + 1 - j) s' hw' (fuel_step hf (slack_le s') hsl), hsame]
      by_cases hp : s.paused = true
      · exact step (popIterG_paused hp) (Nat.le_refl _) (runTicksD_paused (n + 1) s hp) (zeros_length _) rfl
          ⟨hw.data, hw.src⟩ (Or.inl (Nat.succ_pos n))
      have hp : s.paused = false := by simpa using hp
      cases hs : s.source with
      | some src =>
        obtain ⟨hl, hoff, hgen⟩ := hw.src src hs
        by_cases hg : src.gen = true
        · have hj : 0 < min (src.len - src.off) (n + 1) :=
            Nat.lt_min.2 ⟨Nat.sub_pos_of_lt (hgen hg), Nat.succ_pos n⟩
          have hle := Nat.add_le_of_le_sub' hoff (Nat.min_le_left (src.len - src.off) (n + 1))
          exact step (popIterG_gen hp hs hg) (Nat.min_le_right _ _) (runTicksD_src hj s src hp hs hle)
            (wave_length ..) rfl (WF_advance hw hs hle) (Or.inl hj)
        have hg : src.gen = false := by simpa using hg
        have hit := popIterG_arr (nt := nextTrialD d) (n := n + 1) hp hs hg
        by_cases hbig : n + 1 > src.len - src.off
        · rw [if_pos hbig] at hit
          have hwn : WF { s with source := none, samples := s.samples + (src.len - src.off : Nat) } :=
            ⟨hw.data, fun _ h => nomatch h⟩
          rcases Nat.eq_zero_or_pos (src.len - src.off) with hz | hz
          · -- exhausted leftover: a silent iteration
            have hx : ¬ src.off < src.len := fun h => Nat.ne_of_gt (Nat.sub_pos_of_lt h) hz
            rw [hz] at hwn hit
            refine step hit (Nat.zero_le _) (runTicksD_zero d s) rfl ?_ hwn
              (Or.inr (by rw [slack_leftover hp hs hx]; exact Nat.lt_succ_of_le (slack_none_le rfl)))
            rw [Nat.sub_zero, runTicksD_leftover (Nat.succ_pos n) s src hp hs hx]
            simp only [Int.natCast_zero, Int.add_zero]
          · have he : src.off + (src.len - src.off) = src.len := Nat.add_sub_cancel' hoff
            refine step hit (Nat.le_of_lt hbig) (runTicksD_src hz s src hp hs (Nat.le_of_eq he))
              (wave_length ..) ?_ hwn (Or.inl hz)
            -- the ticks leave the exhausted source in place, the loop has dropped it
            exact runTicksD_leftover (Nat.sub_pos_of_lt hbig) _ { src with off := src.off + (src.len - src.off) }
              hp (by simp [advance, hg]) (Nat.not_lt.2 (Nat.le_of_eq he.symm))
        · rw [if_neg hbig] at hit
          have hle := Nat.add_le_of_le_sub' hoff (Nat.le_of_not_gt hbig)
          exact step hit (Nat.le_refl _) (runTicksD_src (Nat.succ_pos n) s src hp hs hle) (wave_length ..) rfl
            (WF_advance hw hs hle) (Or.inl (Nat.succ_pos n))
      | none =>
        by_cases hd : s.delaySamples > 0
        · exact step (popIterG_delay hp hs hd) (Nat.min_le_right _ _)
            (runTicksD_delay _ s hp hs (Int.le_trans (Int.ofNat_le.2 (Nat.min_le_left _ _))
              (Int.le_of_eq (Int.toNat_of_nonneg (Int.le_of_lt hd)))))
            (zeros_length _) rfl ⟨hw.data, fun _ h => nomatch hs ▸ h⟩
            (Or.inl (Nat.lt_min.2 ⟨Int.pos_iff_toNat_pos.1 hd, Nat.succ_pos n⟩))
        · have hit := popIterG_next (nt := nextTrialD d) (n := n + 1) hp hs hd
          cases hnt : nextTrialD d s with
          | error e =>
            rw [popLoopG, hit, hnt]
            simp only [runTicksD_succ, tickD, afterSourceD, hp, hs, hd, hnt, if_false, Bool.false_eq_true]
          | ok r =>
            rw [hnt] at hit
            cases r with
            | none =>
              exact step hit (Nat.le_refl _) (runTicksD_empty n s hp hs (Int.not_lt.1 hd) (nextTrialD_none_iff.1 hnt))
                (zeros_length _) rfl ⟨hw.data, fun _ h => nomatch hs ▸ h⟩ (Or.inl (Nat.succ_pos n))
            | some s' =>
              -- the trial is set up without a sample: the tick from `s'` is the tick from `s`
              obtain ⟨hw', hpp, src, hsrc', hoff, hlen⟩ := nextTrialD_WF hw hnt
              have hlt : src.off < src.len := hoff ▸ hlen
              refine step hit (Nat.zero_le _) (runTicksD_zero d s) rfl ?_ hw'
                (Or.inr (by rw [slack_playing (hpp.trans hp) hsrc' hlt, slack_dry hp hs hd]; exact Nat.one_pos))
              have ht : tickD d s = tickD d s' := by
                simp only [tickD, afterSourceD, hp, hs, hd, hnt, hsrc', hlt, hpp, if_true, if_false,
                  Bool.false_eq_true]
              simp only [Nat.sub_zero, runTicksD_succ, ht]

end Psi.Queue

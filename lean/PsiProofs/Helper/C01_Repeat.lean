import PsiModel.Stim
/-! `repeat()`: grid placement of the waveform. -/
namespace Psi.Stim
open Psi.Chunk

variable {α : Type}

theorem flatten_replicate_getElem? (row : List α) (m k : Nat) :
    ((List.replicate m row).flatten)[k]? = if k < m * row.length then row[k % row.length]? else none := by
  induction m generalizing k with
  | zero => simp
  | succ m ih =>
    rw [List.replicate_succ, List.flatten_cons, Nat.succ_mul]
    by_cases hk : k < row.length
    · rw [List.getElem?_append_left hk, if_pos (by omega), Nat.mod_eq_of_lt hk]
    · rw [List.getElem?_append_right (by omega), ih]
      have hmod : k % row.length = (k - row.length) % row.length := Nat.mod_eq_sub_mod (by omega)
      rw [hmod]
      by_cases c : k - row.length < m * row.length
      · rw [if_pos c, if_pos (by omega)]
      · rw [if_neg c, if_neg (by omega)]

/-! `fixedAt` reads a list with zero past its end, so it commutes with the list constructors
without side conditions. -/

theorem fixedAt_append [Sample α] (l₁ l₂ : List α) (k : Nat) :
    fixedAt (l₁ ++ l₂) k = if k < l₁.length then fixedAt l₁ k else fixedAt l₂ (k - l₁.length) := by
  unfold fixedAt
  rw [List.getElem?_append]
  by_cases h : k < l₁.length
  · rw [if_pos h, if_pos h]
  · rw [if_neg h, if_neg h]

theorem fixedAt_of_le [Sample α] (l : List α) (k : Nat) (h : l.length ≤ k) : fixedAt l k = Sample.zero := by
  unfold fixedAt
  rw [List.getElem?_eq_none h]

theorem fixedAt_replicate_zero [Sample α] (m k : Nat) :
    fixedAt (List.replicate m (Sample.zero : α)) k = Sample.zero := by
  unfold fixedAt
  rw [List.getElem?_replicate]
  by_cases h : k < m
  · rw [if_pos h]
  · rw [if_neg h]

theorem fixedAt_flatten_replicate [Sample α] (row : List α) (m k : Nat) :
    fixedAt ((List.replicate m row).flatten) k
      = if k < m * row.length then fixedAt row (k % row.length) else Sample.zero := by
  unfold fixedAt
  rw [flatten_replicate_getElem?]
  by_cases h : k < m * row.length
  · rw [if_pos h, if_pos h]
  · rw [if_neg h, if_neg h]

theorem fixedAt_row [Sample α] (w : List α) (delay pad j : Nat) :
    fixedAt (List.replicate delay (Sample.zero : α) ++ w ++ List.replicate pad Sample.zero) j
      = if j < delay then Sample.zero else fixedAt w (j - delay) := by
  rw [fixedAt_append, fixedAt_append, fixedAt_replicate_zero, fixedAt_replicate_zero, List.length_append,
    List.length_replicate]
  by_cases h1 : j < delay
  · rw [if_pos (by omega), if_pos h1]
  · rw [if_neg h1]
    by_cases h2 : j < delay + w.length
    · rw [if_pos h2]
    · rw [if_neg h2, fixedAt_of_le _ _ (by omega)]

/-- `repeat()`: `(n + skip) * period` samples; sample `k` is waveform sample `k % period - delay`
inside the occupied part of every non-skipped period and zero elsewhere. -/
theorem repeat_eq_spec {α : Type} [Sample α] (p : RepP) (w l : List α) (h : repeatWave p w = .ok l) :
    l.length = (p.n + p.skip) * p.period ∧ ∀ k, fixedAt l k = repeatAt p w k := by
  unfold repeatWave at h
  split at h
  · cases h
  · rename_i hg
    simp only [Except.ok.injEq] at h
    subst h
    have hrow : (List.replicate p.delay (Sample.zero : α) ++ w
        ++ List.replicate (p.period - p.delay - w.length) Sample.zero).length = p.period := by
      simp only [List.length_append, List.length_replicate]; omega
    rw [List.flatten_replicate_replicate]
    constructor
    · rw [List.length_append, List.length_replicate, List.length_flatten, List.map_replicate, List.sum_replicate_nat,
        hrow, Nat.add_mul, Nat.add_comm]
    · intro k
      rw [fixedAt_append, fixedAt_replicate_zero, List.length_replicate, fixedAt_flatten_replicate, hrow,
        fixedAt_row]
      unfold repeatAt
      rcases Nat.eq_zero_or_pos p.period with h0 | hpos
      · rw [h0, Nat.mul_zero, Nat.mul_zero, if_neg (Nat.not_lt_zero _), if_neg (Nat.not_lt_zero _),
          if_neg (fun c => Nat.not_lt_zero _ c.1)]
      · have hdiv : p.skip ≤ k / p.period ↔ p.skip * p.period ≤ k := Nat.le_div_iff_mul_le hpos
        by_cases hz : k < p.skip * p.period
        · rw [if_pos hz, if_neg (fun c => by have := hdiv.1 c.2.1; omega)]
        · have hmod : (k - p.skip * p.period) % p.period = k % p.period := by
            rw [Nat.mul_comm]; exact Nat.sub_mul_mod (by rw [Nat.mul_comm]; omega)
          rw [if_neg hz, hmod, Nat.add_mul]
          by_cases hk : k - p.skip * p.period < p.n * p.period
          · rw [if_pos hk]
            by_cases c1 : k % p.period < p.delay
            · rw [if_pos c1, if_neg (by omega)]
            · rw [if_neg c1, if_pos ⟨by omega, hdiv.2 (by omega), by omega⟩]
          · rw [if_neg hk, if_neg (by omega)]

end Psi.Stim

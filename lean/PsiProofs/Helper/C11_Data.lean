import PsiProofs.Helper.C11_Slice
/-! Data placement of any successful `getitem` (the fix-ups never touch data or shape), and `x[eIt, cIt]` as
`x[eIt, cIt, :]`. -/
namespace Psi.PData

theorem fixTime_data {c : Bool} {self obj o : PD} {ts : NItem} (h : fixTime c self obj ts = .ok o) :
    o.data = obj.data ∧ o.shape = obj.shape := by
  cases ts with
  | int => cases h
  | newaxis => cases h
  | ilist l => simp only [fixTime] at h; split at h <;> cases h; exact ⟨rfl, rfl⟩
  | blist l => simp only [fixTime] at h; split at h <;> cases h; exact ⟨rfl, rfl⟩
  | slice s =>
    simp only [fixTime] at h
    split at h
    · cases h; exact ⟨rfl, rfl⟩
    · split at h <;> cases h; exact ⟨rfl, rfl⟩

theorem fixChannel_data {c : Bool} {obj o : PD} {cs : Option NItem} (h : fixChannel c obj cs = .ok o) :
    o.data = obj.data ∧ o.shape = obj.shape := by
  unfold fixChannel at h
  repeat' split at h
  all_goals first | (cases h; done) | (cases h; exact ⟨rfl, rfl⟩)

theorem fixEpoch_data {obj o : PD} {es : Option NItem} (h : fixEpoch obj es = .ok o) :
    o.data = obj.data ∧ o.shape = obj.shape := by
  unfold fixEpoch at h
  repeat' split at h
  all_goals first | (cases h; done) | (cases h; exact ⟨rfl, rfl⟩)

theorem fixups_data {fx : Fixes} {self obj o : PD} {norm : List NItem} (h : fixups fx self obj norm = .ok o) :
    o.data = obj.data ∧ o.shape = obj.shape := by
  unfold fixups at h
  split at h
  · cases h
  · split at h
    · cases h
    · rename_i o1 h1
      split at h
      · cases h
      · rename_i o2 h2
        have a1 := fixTime_data h1
        have a2 := fixChannel_data h2
        have a3 := fixEpoch_data h
        exact ⟨by rw [a3.1, a2.1, a1.1], by rw [a3.2, a2.2, a1.2]⟩

theorem getitem_data {a : PD} {index : Index} {r : PD} (h : getitem a index = .ok (.arr r)) :
    ∃ sel, npGetitem a.shape index.items = .ok sel ∧ r.data = pick a.data sel.offsets ∧ r.shape = sel.shape := by
  unfold getitem getitemG at h
  split at h
  · cases h
  · rename_i sel hsel
    refine ⟨sel, hsel, ?_⟩
    simp only at h
    split at h
    · cases h
    · split at h
      · cases h
      · rename_i norm hn
        simp only [Except.map] at h
        split at h
        · cases h
        · rename_i o ho
          cases h
          have := fixups_data ho
          simpa [finalize, pick] using this

theorem itemSel_ne_new {it : Item} (h : it.consumes = true) {n : Nat} {sel : Sel} (hs : itemSel it n = .ok sel) :
    sel ≠ .new := by
  intro hn; subst hn
  have := itemSel_nsel h hs
  generalize it.toN = ni at this
  cases this

theorem getitem_ec_eq (e c n : Nat) (data : List Nat) (s0 : Int) (fs : Rat) (ch : Chan) (md : Meta)
    (eIt cIt : Item) (he : eIt.simple) (hc : cIt.simple) :
    getitem ⟨[e, c, n], data, s0, fs, ch, md⟩ (.tuple [eIt, cIt]) =
      getitem ⟨[e, c, n], data, s0, fs, ch, md⟩ (.tuple [eIt, cIt, .slice .all]) := by
  have fe := (Item.simple_flags he).2.1
  have fc := (Item.simple_flags hc).2.1
  have hnp : npGetitem [e, c, n] [eIt, cIt] = npGetitem [e, c, n] [eIt, cIt, .slice .all] := by
    rw [npGetitem_consuming _ _ (by simp [fe, fc]) (by simp) (itemsAdjacent_two eIt cIt),
      npGetitem_consuming _ _ (by simp [fe, fc, show (Item.slice .all).consumes = true from rfl]) (by simp)
        (itemsAdjacent_three eIt cIt .all)]
    rfl
  have hnorm : normalizeIndexG true (.tuple [eIt, cIt]) 3 = normalizeIndexG true (.tuple [eIt, cIt, .slice .all]) 3 :=
    (normTuple_simple [eIt, cIt] 3 (by simp only [List.forall_mem_cons]; exact ⟨he, hc, by simp⟩)).trans
      (normTuple_simple [eIt, cIt, .slice .all] 3
        (by simp only [List.forall_mem_cons]; exact ⟨he, hc, trivial, by simp⟩)).symm
  have hs1 : isScalarResult [e, c, n] [eIt, cIt] = false := by simp [isScalarResult]
  have hs2 : isScalarResult [e, c, n] [eIt, cIt, .slice .all] = false := by simp [isScalarResult]
  simp only [getitem, getitemG, Index.items, hnp, hs1, hs2, PD.ndim, List.length_cons, List.length_nil, Fixes.all, hnorm]

end Psi.PData

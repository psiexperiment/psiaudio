import PsiModel.Stim
import PsiProofs.Helper.C01_Update
/-! `SquareWaveFactory.next` (with fix 3): the stride loop paints exactly the samples whose
absolute index `k` has `k % cycle < on`. -/
namespace Psi.Stim
open Psi.Chunk

variable {α : Type}

/-- Sample `i` of the chunk is painted by a cycle that starts at chunk-relative position `o + j*cycle`. -/
def painted (cycle on : Nat) (o : Int) (i : Nat) : Prop :=
  o ≤ (i : Int) ∧ ((i : Int) - o) % (cycle : Int) < (on : Int)

instance (cycle on : Nat) (o : Int) (i : Nat) : Decidable (painted cycle on o i) := by
  unfold painted; infer_instance

theorem painted_step (cycle on : Nat) (hc : 0 < cycle) (o : Int) (i : Nat) :
    painted cycle on o i ↔
      painted cycle on (o + cycle) i ∨ ((max o 0).toNat ≤ i ∧ i < (max (o + on) 0).toNat) := by
  unfold painted
  have hr : ((max o 0).toNat ≤ i ∧ i < (max (o + on) 0).toNat) ↔ (o ≤ (i : Int) ∧ (i : Int) < o + on) := by
    rw [Int.toNat_le, Int.lt_toNat, Int.max_le]
    omega
  rw [hr]
  have hcz : (0 : Int) < cycle := by omega
  by_cases h1 : o + (cycle : Int) ≤ i
  · -- a full cycle after `o`: the phase is the same seen from `o + cycle`, and `on > cycle` if `i < o + on`
    have hlt := Int.emod_lt_of_pos ((i : Int) - o) hcz
    rw [show (i : Int) - (o + cycle) = (i : Int) - o - cycle by omega, Int.sub_emod_right]
    omega
  · by_cases h0 : o ≤ (i : Int)
    · -- inside the first cycle the phase is `i - o`
      rw [Int.emod_eq_of_lt (by omega) (by omega)]
      omega
    · omega

theorem map_unpainted (cycle on : Nat) (high : α) (o : Int) (w : List α) (h : (w.length : Int) ≤ o) (i : Nat) :
    ((w[i]?).map fun x => if painted cycle on o i then high else x) = w[i]? := by
  by_cases hi : i < w.length
  · rw [List.getElem?_eq_getElem hi, Option.map_some, if_neg (fun hp => by unfold painted at hp; omega)]
  · rw [List.getElem?_eq_none (by omega)]; rfl

theorem sqwLoop_getElem? (cycle on : Nat) (hc : 0 < cycle) (high : α) (n : Nat) :
    ∀ (fuel : Nat) (o : Int) (w : List α), w.length = n → (n : Int) ≤ o + (fuel : Int) * cycle →
      ∀ i, (sqwLoop cycle on high n fuel o w)[i]? =
        (w[i]?).map fun x => if painted cycle on o i then high else x := by
  intro fuel
  induction fuel with
  | zero =>
    intro o w hw hf i
    rw [map_unpainted cycle on high o w (by omega)]
    rfl
  | succ fuel ih =>
    intro o w hw hf i
    simp only [sqwLoop]
    by_cases ho : o < (n : Int)
    · have hf' : (n : Int) ≤ (o + cycle) + (fuel : Int) * cycle := by
        rw [Int.natCast_add, Int.add_mul] at hf
        omega
      rw [if_pos ho, ih (o + cycle) _ (by rw [setRange_length]; exact hw) hf' i, setRange_getElem?]
      have hstep := painted_step cycle on hc o i
      cases w[i]? with
      | none => rfl
      | some x =>
        simp only [Option.map_some]
        by_cases p : painted cycle on o i
        · rw [if_pos p]
          rcases hstep.mp p with p1 | p2
          · rw [if_pos p1]
          · rw [if_pos p2, ite_self]
        · rw [if_neg p, if_neg fun h => p (hstep.mpr (.inl h)), if_neg fun h => p (hstep.mpr (.inr h))]
    · rw [if_neg ho, map_unpainted cycle on high o w (by omega)]

/-- `SquareWaveFactory.next` (with fix 3): high exactly where `k % cycle < on`. -/
theorem squarewave_fragment_eq_slice {α : Type} [Sample α] (cycle on : Nat) (hc : 0 < cycle) (high : α)
    (off n : Nat) : squareWaveNext cycle on high off n = slice (sqwAt cycle on high) off n := by
  have hcz : (0 : Int) < cycle := by omega
  have hm0 := Int.emod_nonneg (off : Int) (by omega : (cycle : Int) ≠ 0)
  have hm1 := Int.emod_lt_of_pos (off : Int) hcz
  have hfuel : (n : Int) ≤ -((off : Int) % cycle) + ((n + 1 : Nat) : Int) * cycle := by
    have h2 : (n : Int) ≤ (n : Int) * cycle := by
      have := Int.mul_le_mul_of_nonneg_left (show (1 : Int) ≤ cycle by omega) (show (0 : Int) ≤ n by omega)
      rwa [Int.mul_one] at this
    rw [Int.natCast_add, Int.add_mul]
    omega
  have hget := sqwLoop_getElem? cycle on hc high n (n + 1) (-((off : Int) % cycle))
    (List.replicate n Sample.zero) List.length_replicate hfuel
  apply List.ext_getElem?
  intro i
  unfold squareWaveNext
  rw [slice_getElem?, hget i, List.getElem?_replicate]
  by_cases hi : i < n
  · rw [if_pos hi, if_pos hi, Option.map_some, sqwAt]
    have key : painted cycle on (-((off : Int) % cycle)) i ↔ (off + i) % cycle < on := by
      unfold painted
      have e : ((i : Int) - -((off : Int) % cycle)) % (cycle : Int) = (((off + i) % cycle : Nat) : Int) := by
        rw [Int.natCast_emod, Int.natCast_add, Int.sub_neg, Int.add_emod_emod, Int.add_comm]
      rw [e]
      omega
    exact congrArg some (ite_congr (propext key) (fun _ => rfl) fun _ => rfl)
  · rw [if_neg hi, if_neg hi]
    rfl

end Psi.Stim

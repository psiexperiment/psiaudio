import PsiProofs.Helper.C11_Basic
/-! `getitem` on well-formed arrays, layer by layer: what a normalised entry does to the label / metadata list
(`NSel`), the normalised form of the index expressions that occur, NumPy's result from the entries paired with their
axes (`npOfSels`), and `getitem_1d/2d/3d`, which put them together. -/
namespace Psi.PData

theorem listTake_range {α} (l : List α) : listTake l (List.range l.length) = l := by
  unfold listTake
  apply List.ext_getElem?
  intro i
  induction l generalizing i with
  | nil => simp
  | cons x xs ih =>
    simp [List.range_succ_eq_map, List.filterMap_map, Function.comp_def]
    cases i with
    | zero => simp
    | succ j => simpa using ih j

theorem listSlice_all {α} (l : List α) : listSlice l .all = .ok l := by
  simp [listSlice, slicePositions_all]
  exact listTake_range l

theorem map_eq_ok {ε α β} {x : Except ε α} {f : α → β} {b : β} (h : x.map f = .ok b) : ∃ a, x = .ok a ∧ f a = b := by
  cases x with
  | error e => cases h
  | ok a => exact ⟨a, rfl, by cases h; rfl⟩

theorem mapM_eq_map {α β} (f : α → Except Err β) (F : α → β) : ∀ (l : List α), (∀ x ∈ l, f x = .ok (F x)) →
    l.mapM f = .ok (l.map F)
  | [], _ => rfl
  | x :: xs, h => by
    rw [List.mapM_cons, h x (by simp), mapM_eq_map f F xs (fun y hy => h y (by simp [hy]))]; rfl

theorem wrapIndex_lt {i : Int} {n p : Nat} (h : wrapIndex i n = .ok p) : p < n := by
  unfold wrapIndex at h
  split at h
  · cases h
  · simp only [Except.ok.injEq] at h
    subst h
    split <;> omega

theorem listGet_ok {α} (l : List α) (i : Int) (p : Nat) (h : wrapIndex i l.length = .ok p) (d : α) :
    listGet l i = .ok (l.getD p d) := by
  have hlt := wrapIndex_lt h
  simp [listGet, h, List.getElem?_eq_getElem hlt, List.getD]

/-- `s0` and (`timeFs`) `fs` after a positive-step time slice (repaired code). -/
def timeS0 (s0 : Int) (s : PySlice) (n : Nat) : Int := s0 + startNat s n
def timeFs (fs : Rat) (s : PySlice) : Rat := match s.step with | none => fs | some st => fs / (st : Rat)

theorem timeFs_unit {s : PySlice} (hunit : s.step = none ∨ s.step = some 1) (fs : Rat) : timeFs fs s = fs := by
  rcases hunit with h | h <;> simp [timeFs, h]
  -- left over for `some 1`: `fs / 1 = fs` over `Rat`, for which core has no lemma
  grind

/-- `s0` after any time slice (repaired code): the first selected sample as `slice.indices` clamps it. -/
def sliceS0 (s0 : Int) (s : PySlice) (n : Nat) : Int :=
  match s.start with
  | none => s0
  | some v => if s.step.getD 1 < 0 then s0 + clampNeg v n else s0 + clampPos v n

theorem fixTime_slice (a obj : PD) (s : PySlice) (h : s.step ≠ some 0) :
    fixTime true a obj (.slice s) = .ok { obj with s0 := sliceS0 obj.s0 s a.nTime, fs := timeFs obj.fs s } := by
  obtain ⟨st, sp, step⟩ := s
  cases step with
  | none => simp only [fixTime, timeFs, sliceS0]; rfl
  | some k =>
    have : k ≠ 0 := by rintro rfl; exact h rfl
    simp only [fixTime, this, ↓reduceIte, timeFs, sliceS0]; rfl

theorem sliceS0_all (s0 : Int) (n : Nat) : sliceS0 s0 .all n = s0 := rfl
theorem timeFs_all (fs : Rat) : timeFs fs .all = fs := rfl

theorem sliceS0_pos (s0 : Int) (s : PySlice) (n : Nat) (k : Int) (hk : 0 < k) (hs : s.step.getD 1 = k) :
    sliceS0 s0 s n = timeS0 s0 s n := by
  have hk' : ¬ k < 0 := by omega
  obtain ⟨st, sp, step⟩ := s
  cases st with
  | none => simp [sliceS0, timeS0, startNat]
  | some v => simp only [sliceS0, timeS0, startNat, hs, if_neg hk', Int.toNat_of_nonneg (clampPos_nonneg v n)]

def selData (data : List Nat) (sel : NPSel) : List Nat := sel.offsets.map fun o => data.getD o 0

def pick (data : List Nat) (offs : List Nat) : List Nat := offs.map fun o => data.getD o 0

def selChan (l : List Label) : Sel → Chan
  | .idx p => .one (l.getD p none)
  | .basic ps => .many (listTake l ps)
  | .fancy ps => .many (listTake l ps)
  | .new => .many [default]

def selMeta (l : List Md) : Sel → Meta
  | .idx p => .one (l.getD p 0)
  | .basic ps => .many (listTake l ps)
  | .fancy ps => .many (listTake l ps)
  | .new => .many [default]

def selShape : Sel → List Nat
  | .idx _ => []
  | .basic ps => [ps.length]
  | .fancy ps => [ps.length]
  | .new => [1]

def Sel.positions : Sel → List Nat
  | .idx p => [p]
  | .basic ps => ps
  | .fancy ps => ps
  | .new => []

/-- `normalize_index` turns integer / boolean arrays into lists. -/
def Item.toN : Item → NItem
  | .int i => .int i
  | .slice s => .slice s
  | .ilist l | .iarr l => .ilist l
  | .blist l | .barr l => .blist l
  | _ => .newaxis

/-- `NSel n ni sel`: on a label or metadata list of length `n`, the fix-up for the normalised entry `ni` attaches the
entries at the rows `sel`, which are the rows NumPy selects for the index entry that `ni` came from (`itemSel_nsel`).
Not a function of `ni`: a full slice has the `slice` and the `all` reading. -/
inductive NSel (n : Nat) : NItem → Sel → Prop
  | int {i p} : wrapIndex i n = .ok p → NSel n (.int i) (.idx p)
  | slice {s ps} : slicePositions s n = .ok ps → NSel n (.slice s) (.basic ps)
  | ilist {idx ps} : wrapAll idx n = .ok ps → NSel n (.ilist idx) (.fancy ps)
  | blist {m ps} : maskPositions m n = .ok ps → NSel n (.blist m) (.fancy ps)
  | blistNil : NSel n (.blist []) (.fancy [])
  /-- an all-`True` mask array is normalised to a full slice. -/
  | all : NSel n (.slice .all) (.fancy (List.range n))

theorem itemSel_nsel {it : Item} (hc : it.consumes = true) {n : Nat} {sel : Sel} (h : itemSel it n = .ok sel) :
    NSel n it.toN sel := by
  cases it with
  | newaxis => cases hc
  | ellipsis => cases hc
  | int i => obtain ⟨p, hp, rfl⟩ := map_eq_ok h; exact .int hp
  | slice s => obtain ⟨ps, hp, rfl⟩ := map_eq_ok h; exact .slice hp
  | iarr l => obtain ⟨ps, hp, rfl⟩ := map_eq_ok h; exact .ilist hp
  | barr l => obtain ⟨ps, hp, rfl⟩ := map_eq_ok h; exact .blist hp
  | ilist l =>
    simp only [itemSel] at h
    split at h
    · rename_i he; cases h; obtain rfl := List.isEmpty_iff.1 he; exact .ilist rfl
    · obtain ⟨ps, hp, rfl⟩ := map_eq_ok h; exact .ilist hp
  | blist l =>
    simp only [itemSel] at h
    split at h
    · rename_i he; cases h; obtain rfl := List.isEmpty_iff.1 he; exact .blistNil
    · obtain ⟨ps, hp, rfl⟩ := map_eq_ok h; exact .blist hp

theorem maskPositions_nil {n : Nat} {ps : List Nat} (h : maskPositions [] n = .ok ps) : ps = [] := by
  unfold maskPositions at h
  split at h <;> cases h
  rfl

theorem fixChannel_nsel {obj : PD} {l : List Label} (hc : obj.channel = .many l) {ni : NItem} {sel : Sel}
    (h : NSel l.length ni sel) : fixChannel true obj (some ni) = .ok { obj with channel := selChan l sel } := by
  cases h with
  | @int i p hp => simp [fixChannel, hc, listGet_ok l i p hp none, selChan]
  | slice hp => simp [fixChannel, hc, listSlice, hp, selChan, listTake]
  | ilist hp => simp [fixChannel, hc, selChan, hp]
  | @blist m ps hp =>
    cases m with
    | nil => obtain rfl := maskPositions_nil hp; simp [fixChannel, hc, selChan, listTake]
    | cons b bs => simp [fixChannel, hc, selChan, hp]
  | blistNil => simp [fixChannel, hc, selChan, listTake]
  | all => simp [fixChannel, hc, selChan, listSlice_all, listTake_range]

theorem fixEpoch_nsel {obj : PD} {l : List Md} (hc : obj.metadata = .many l) {ni : NItem} {sel : Sel}
    (h : NSel l.length ni sel) : fixEpoch obj (some ni) = .ok { obj with metadata := selMeta l sel } := by
  cases h with
  | @int i p hp => simp [fixEpoch, hc, listGet_ok l i p hp 0, selMeta]
  | slice hp => simp [fixEpoch, hc, listSlice, hp, selMeta, listTake]
  | @ilist idx ps hp =>
    cases idx with
    | nil => cases hp; simp [fixEpoch, hc, selMeta, listTake]
    | cons x xs => simp [fixEpoch, hc, selMeta, hp]
  | @blist m ps hp =>
    cases m with
    | nil => obtain rfl := maskPositions_nil hp; simp [fixEpoch, hc, selMeta, listTake]
    | cons b bs => simp [fixEpoch, hc, selMeta, hp]
  | blistNil => simp [fixEpoch, hc, selMeta, listTake]
  | all => simp [fixEpoch, hc, selMeta, listSlice_all, listTake_range]

/-- entries that may address the channel / epoch axis inside an indexing tuple: int, slice, int list, bool list
(ndarrays inside a tuple are refused by `normalize_index`). -/
def Item.simple : Item → Prop
  | .int _ | .slice _ | .ilist _ | .blist _ => True
  | _ => False

theorem Item.simple_flags {it : Item} (h : it.simple) :
    it.isEllipsis = false ∧ it.consumes = true ∧ it.isNewaxis = false := by
  cases it <;> first | exact False.elim h | exact ⟨rfl, rfl, rfl⟩

theorem normLoop_simple (nd len : Nat) : ∀ items : List Item, (∀ it ∈ items, it.simple) →
    normLoop nd len items = .ok (items.map Item.toN)
  | [], _ => rfl
  | it :: rest, h => by
    have ih := normLoop_simple nd len rest fun x hx => h x (List.mem_cons_of_mem _ hx)
    have hs := h it (List.mem_cons_self ..)
    cases it <;> first | exact False.elim hs | simp only [normLoop, ih, Except.map, List.map_cons, Item.toN]

theorem normTuple_simple (items : List Item) (nd : Nat) (h : ∀ it ∈ items, it.simple) :
    normTuple items nd = .ok (items.map Item.toN ++ fullSlices (nd - items.length)) := by
  have he : items.filter Item.isEllipsis = [] :=
    List.filter_eq_nil_iff.2 fun it hit => by simp [(Item.simple_flags (h it hit)).1]
  have hn : items.filter Item.isNewaxis = [] :=
    List.filter_eq_nil_iff.2 fun it hit => by simp [(Item.simple_flags (h it hit)).2.2]
  simp [normTuple, he, hn, normLoop_simple _ _ items h]

/-- head of the normalised form of `x[it]`: an all-`True` mask array becomes a full slice. -/
def Item.normHead : Item → NItem
  | .barr l => if l.all id then .slice .all else .blist l
  | it => it.toN

theorem normalizeIndex_one (it : Item) (hc : it.consumes = true) (nd : Nat) :
    normalizeIndexG true (.one it) (nd + 1) = .ok (it.normHead :: fullSlices nd) := by
  have hone : ∀ x : Item, x.simple → normTuple [x] (nd + 1) = .ok (x.toN :: fullSlices nd) := fun x hx => by
    simpa using normTuple_simple [x] (nd + 1) (by simpa using hx)
  cases it with
  | newaxis => cases hc
  | ellipsis => cases hc
  | int i => rfl
  | slice s => rfl
  | ilist l => exact hone (.ilist l) trivial
  | blist l => exact hone (.blist l) trivial
  | iarr l => simpa [normalizeIndexG, Item.normHead, Item.toN] using hone (.ilist l) trivial
  | barr l =>
    simp only [normalizeIndexG, Item.normHead]
    split
    · rfl
    · exact hone (.blist l) trivial

theorem trueIdx_all (m : List Bool) (h : m.all id = true) (pos : Nat) : trueIdx pos m = List.range' pos m.length := by
  induction m generalizing pos with
  | nil => simp [trueIdx]
  | cons b bs ih =>
    simp at h
    simp [trueIdx, h.1, ih (by simpa using h.2), List.range'_succ]

theorem maskPositions_all {m : List Bool} {n : Nat} {ps : List Nat} (h : m.all id = true)
    (hp : maskPositions m n = .ok ps) : ps = List.range n := by
  unfold maskPositions at hp
  split at hp
  · cases hp
    rename_i hlen
    rw [trueIdx_all m h 0, hlen, List.range_eq_range']
  · cases hp

theorem itemSel_nsel_head {it : Item} (hc : it.consumes = true) {n : Nat} {sel : Sel} (h : itemSel it n = .ok sel) :
    NSel n it.normHead sel := by
  cases it with
  | barr l =>
    simp only [Item.normHead]
    split
    · rename_i hall
      obtain ⟨ps, hp, rfl⟩ := map_eq_ok h
      obtain rfl := maskPositions_all hall hp
      exact .all
    · exact itemSel_nsel hc h
  | _ => exact itemSel_nsel hc h

theorem normalize_ellipsis_slice (s : PySlice) (nd : Nat) :
    normalizeIndexG true (.tuple [.ellipsis, .slice s]) (nd + 1) = .ok (fullSlices nd ++ [.slice s]) := by
  simp [normalizeIndexG, normTuple, normLoop, List.filter, Item.isEllipsis, Item.isNewaxis, Except.map, fullSlices]

/-- NumPy's result once every entry has been paired with its axis (advanced entries adjacent). -/
def npOfSels (sels : List (Sel × Nat)) : Except Err NPSel :=
  if sels.any (fun e => e.1.isFancy) then
    match broadcastLen sels with
    | .error e => .error e
    | .ok none => .error .indexError
    | .ok (some k) => .ok ⟨0, axesInPlace ((List.range k).map fun j => advOffset j sels) false sels, sels⟩
  else .ok ⟨advOffset 0 sels, sels.filterMap plainAxis, sels⟩

theorem Item.consumes_not_ellipsis {it : Item} (h : it.consumes = true) : it.isEllipsis = false := by
  cases it <;> first | rfl | cases h

theorem npGetitem_consuming (shape : List Nat) (items : List Item) (hc : ∀ it ∈ items, it.consumes = true)
    (hlen : items.length ≤ shape.length) (hadj : itemsAdjacent items = true) :
    npGetitem shape items =
      match assignAxes (items ++ List.replicate (shape.length - items.length) (.slice .all))
        (shape.zip (strides shape)) with
      | .error e => .error e
      | .ok sels => npOfSels sels := by
  have he : items.filter Item.isEllipsis = [] :=
    List.filter_eq_nil_iff.2 fun it hit => by simp [Item.consumes_not_ellipsis (hc it hit)]
  have hf : items.filter Item.consumes = items := List.filter_eq_self.2 hc
  have hany : items.any Item.isEllipsis = false := by
    simp only [List.any_eq_false]; intro it hit; simp [Item.consumes_not_ellipsis (hc it hit)]
  have hl : ¬ items.length > shape.length := by omega
  simp only [npGetitem, he, hf, hany, hl, hadj, List.length_nil, gt_iff_lt, Nat.not_lt_zero,
    ↓reduceIte, Bool.false_eq_true, npOfSels]
  rfl

theorem npGetitem_ellipsis (shape : List Nat) (s : PySlice) (h1 : 1 ≤ shape.length) :
    npGetitem shape [.ellipsis, .slice s] =
      match assignAxes (List.replicate (shape.length - 1) (.slice .all) ++ [.slice s]) (shape.zip (strides shape)) with
      | .error e => .error e
      | .ok sels => npOfSels sels := by
  have hl : ¬ 1 > shape.length := by omega
  simp only [npGetitem, List.filter, Item.isEllipsis, Item.consumes, List.length_cons, List.length_nil, Nat.zero_add,
    gt_iff_lt, Nat.lt_irrefl, ↓reduceIte, hl, List.any_cons, Bool.true_or, expandEllipsis, npOfSels]
  rfl

/-- well-formed annotated arrays: what `PipelineData.__new__` builds for 1-, 2- and 3-D data. -/
inductive WF : PD → Prop
  | d1 (n : Nat) (data : List Nat) (s0 : Int) (fs : Rat) (lab : Label) (m : Md) (hd : data.length = n) :
      WF ⟨[n], data, s0, fs, .one lab, .one m⟩
  | d2 (c n : Nat) (data : List Nat) (s0 : Int) (fs : Rat) (l : List Label) (m : Md)
      (hd : data.length = c * n) (hl : l.length = c) :
      WF ⟨[c, n], data, s0, fs, .many l, .one m⟩
  | d3 (e c n : Nat) (data : List Nat) (s0 : Int) (fs : Rat) (l : List Label) (ms : List Md)
      (hd : data.length = e * (c * n)) (hl : l.length = c) (hm : ms.length = e) :
      WF ⟨[e, c, n], data, s0, fs, .many l, .many ms⟩

theorem getitem_of_parts {a : PD} {index : Index} {sel : NPSel} {norm : List NItem} {r : PD}
    (hnp : npGetitem a.shape index.items = .ok sel) (hsc : isScalarResult a.shape index.items = false)
    (hn : normalizeIndexG true index a.ndim = .ok norm)
    (hf : fixups Fixes.all a (finalize a sel.shape (pick a.data sel.offsets)) norm = .ok r) :
    getitem a index = .ok (.arr r) := by
  have hst : Fixes.all.strict = true := rfl
  simp only [getitem, getitemG, hnp, hsc, Bool.false_eq_true, ↓reduceIte, hst, hn]
  simp only [pick] at hf
  rw [hf]
  rfl

section
variable (data : List Nat) (s0 : Int) (fs : Rat) (index : Index) {sel : NPSel} {ts : PySlice}

theorem getitem_1d (n : Nat) (lab : Label) (m : Md)
    (hn : normalizeIndexG true index 1 = .ok [.slice ts]) (hts : ts.step ≠ some 0)
    (hnp : npGetitem [n] index.items = .ok sel) (hsh : sel.shape.length ≤ 1)
    (hsc : isScalarResult [n] index.items = false) :
    getitem ⟨[n], data, s0, fs, .one lab, .one m⟩ index =
      .ok (.arr ⟨sel.shape, pick data sel.offsets, sliceS0 s0 ts n, timeFs fs ts, .one lab, .one m⟩) := by
  refine getitem_of_parts (a := ⟨[n], data, s0, fs, .one lab, .one m⟩) hnp hsc hn ?_
  have h1 : ¬ sel.shape.length > 1 := by omega
  have hfin : finalize ⟨[n], data, s0, fs, .one lab, .one m⟩ sel.shape (pick data sel.offsets) =
      ⟨sel.shape, pick data sel.offsets, s0, fs, .one lab, .one m⟩ := by
    cases lab <;> simp only [finalize, h1, ↓reduceIte]
  simp only [hfin, fixups, splitNorm, Fixes.all, fixTime_slice _ _ ts hts, fixChannel, fixEpoch]
  rfl

theorem getitem_2d (c n : Nat) (l : List Label) (m : Md) {nc : NItem} {selC : Sel}
    (hn : normalizeIndexG true index 2 = .ok [nc, .slice ts]) (hC : NSel l.length nc selC) (hts : ts.step ≠ some 0)
    (hnp : npGetitem [c, n] index.items = .ok sel) (hsc : isScalarResult [c, n] index.items = false) :
    getitem ⟨[c, n], data, s0, fs, .many l, .one m⟩ index =
      .ok (.arr ⟨sel.shape, pick data sel.offsets, sliceS0 s0 ts n, timeFs fs ts, selChan l selC, .one m⟩) := by
  refine getitem_of_parts (a := ⟨[c, n], data, s0, fs, .many l, .one m⟩) hnp hsc hn ?_
  simp only [finalize, fixups, splitNorm, Fixes.all, fixTime_slice _ _ ts hts]
  rw [fixChannel_nsel rfl hC]
  rfl

/-- The annotations are selected per axis, whatever NumPy does with the data (`sel`). -/
theorem getitem_3d (e c n : Nat) (l : List Label) (ms : List Md) {ne nc : NItem} {selE selC : Sel}
    (hn : normalizeIndexG true index 3 = .ok [ne, nc, .slice ts]) (hE : NSel ms.length ne selE)
    (hC : NSel l.length nc selC) (hts : ts.step ≠ some 0)
    (hnp : npGetitem [e, c, n] index.items = .ok sel) (hsc : isScalarResult [e, c, n] index.items = false) :
    getitem ⟨[e, c, n], data, s0, fs, .many l, .many ms⟩ index =
      .ok (.arr ⟨sel.shape, pick data sel.offsets, sliceS0 s0 ts n, timeFs fs ts, selChan l selC, selMeta ms selE⟩) := by
  refine getitem_of_parts (a := ⟨[e, c, n], data, s0, fs, .many l, .many ms⟩) hnp hsc hn ?_
  simp only [finalize, fixups, splitNorm, Fixes.all, fixTime_slice _ _ ts hts]
  rw [fixChannel_nsel rfl hC]
  simp only
  rw [fixEpoch_nsel rfl hE]
  rfl
end

end Psi.PData

import PsiModel.Conc
/-!
# C15 — lock discipline ⇒ serialisability, for every schedule

Invariant: every reachable configuration is either `Quiescent` (lock free, every thread between
operations) or `Held c t` (thread `t` is inside its operation's lock span, every other thread is
between operations and its next micro-step is an `acq`, which blocks).
-/
namespace Psi.Conc
variable {S L : Type}

def AllAtomic (c : Config S L) : Prop :=
  ∀ i, ∀ op ∈ (c.threads i).rest, atomicK (op.map MStep.kind) = true

def Quiescent (c : Config S L) : Prop :=
  c.owner = none ∧ (∀ i, (c.threads i).cur = []) ∧ AllAtomic c

def Held (c : Config S L) (t : Nat) : Prop :=
  c.owner = some t ∧ insideK c.depth ((c.threads t).cur.map MStep.kind) = true ∧
  (∀ i, i ≠ t → (c.threads i).cur = []) ∧ AllAtomic c

/-- One whole operation of `t`, uninterrupted: `t`, running alone from `cs`, takes the free lock and
    `c'` is the first configuration in which the lock is free again. -/
def OpRun (cs : Config S L) (t : Nat) (c' : Config S L) : Prop :=
  ∃ j, 0 < j ∧ c' = stepN t j cs ∧ c'.owner = none ∧ ∀ i, 0 < i → i < j → (stepN t i cs).owner = some t

/-- `c` results from `c0` by executing one `OpRun` at a time, of the threads listed in `order`. -/
inductive SerialRun (c0 : Config S L) : List Nat → Config S L → Prop
  | nil : SerialRun c0 [] c0
  | snoc {order cs t c'} : SerialRun c0 order cs → OpRun cs t c' → SerialRun c0 (order ++ [t]) c'

theorem insideK_pos {d : Nat} {l : List K} (h : insideK d l = true) : 0 < d := by
  cases d with
  | zero => cases l <;> simp [insideK] at h
  | succ d => omega

theorem atomic_shape {op : List (MStep S L)} (h : atomicK (op.map MStep.kind) = true) :
    ∃ body, op = .acq :: body ∧ insideK 1 (body.map MStep.kind) = true := by
  cases op with
  | nil => simp [atomicK] at h
  | cons s body =>
    cases s with
    | acq => exact ⟨body, rfl, by simpa [atomicK, MStep.kind] using h⟩
    | rel => simp [atomicK, MStep.kind] at h
    | act g => simp [atomicK, MStep.kind] at h

theorem step_cur {c : Config S L} {t : Nat} {s : MStep S L} {cur' : List (MStep S L)}
    (h : (c.threads t).cur = s :: cur') : step c t = exec c t { c.threads t with cur := cur' } s := by
  simp only [step, h]

theorem step_done {c : Config S L} {t : Nat} (h : (c.threads t).cur = []) (hr : (c.threads t).rest = []) :
    step c t = c := by
  simp only [step, h, hr]

theorem step_next {c : Config S L} {t : Nat} {s : MStep S L} {cur' : List (MStep S L)}
    {rest' : List (List (MStep S L))} (h : (c.threads t).cur = [])
    (hr : (c.threads t).rest = (s :: cur') :: rest') :
    step c t = exec c t { c.threads t with cur := cur', rest := rest' } s := by
  simp only [step, h, hr]

/-! `th` is the stepping thread with the micro-step consumed. -/
section exec
variable {c : Config S L} {t : Nat} {th : Thread S L}

theorem exec_acq_free (ho : c.owner = none) :
    exec c t th .acq = { setThread c t th with owner := some t, depth := 1, log := c.log ++ [t] } := by
  simp only [exec, ho]

theorem exec_acq_held (ho : c.owner = some t) :
    exec c t th .acq = { setThread c t th with depth := c.depth + 1 } := by
  simp only [exec, ho, if_true]

theorem exec_acq_blocked {o : Nat} (ho : c.owner = some o) (hne : o ≠ t) : exec c t th .acq = c := by
  simp only [exec, ho, hne, if_false]

theorem exec_rel_last (ho : c.owner = some t) (hd : c.depth ≤ 1) :
    exec c t th .rel = { setThread c t th with owner := none, depth := 0 } := by
  simp only [exec, ho, if_true, hd]

theorem exec_rel_inner (ho : c.owner = some t) (hd : ¬ c.depth ≤ 1) :
    exec c t th .rel = { setThread c t th with depth := c.depth - 1 } := by
  simp only [exec, ho, if_true, hd, if_false]

end exec

theorem exec_act (c : Config S L) (t : Nat) (th : Thread S L) (g : S → L → S × L) :
    exec c t th (.act g) = { setThread c t { th with loc := (g c.sh th.loc).2 } with sh := (g c.sh th.loc).1 } :=
  rfl

/-! Thread `t` is replaced by `th`, which has no new pending operations, while the other threads are
    idle; whatever else changed, the threads of `c'` are those of `setThread c t th`. -/
section frame
variable {c c' : Config S L} {t : Nat} {th : Thread S L}
  (hthr : c'.threads = (setThread c t th).threads) (hc : ∀ i, i ≠ t → (c.threads i).cur = [])
  (ha : AllAtomic c) (hr : ∀ op ∈ th.rest, op ∈ (c.threads t).rest)
include hthr hc ha hr

theorem setThread_frame : c'.threads t = th ∧ (∀ i, i ≠ t → (c'.threads i).cur = []) ∧ AllAtomic c' := by
  have ht : c'.threads t = th := by rw [hthr]; exact if_pos rfl
  have hi : ∀ i, i ≠ t → c'.threads i = c.threads i := fun i hi => by rw [hthr]; exact if_neg hi
  refine ⟨ht, fun i h => by rw [hi i h]; exact hc i h, fun i op hop => ?_⟩
  by_cases h : i = t
  · subst h; rw [ht] at hop; exact ha i op (hr op hop)
  · rw [hi i h] at hop; exact ha i op hop

theorem held_of_frame (ho : c'.owner = some t) (hin : insideK c'.depth (th.cur.map MStep.kind) = true) :
    Held c' t := by
  obtain ⟨ht, hidle, hat⟩ := setThread_frame hthr hc ha hr
  exact ⟨ho, by rw [ht]; exact hin, hidle, hat⟩

theorem quiescent_of_frame (ho : c'.owner = none) (hcur : th.cur = []) : Quiescent c' := by
  obtain ⟨ht, hidle, hat⟩ := setThread_frame hthr hc ha hr
  refine ⟨ho, fun i => ?_, hat⟩
  by_cases hi : i = t
  · rw [hi, ht, hcur]
  · exact hidle i hi

end frame

theorem step_quiescent {c : Config S L} (hq : Quiescent c) (u : Nat) :
    step c u = c ∨ (Held (step c u) u ∧ (step c u).log = c.log ++ [u]) := by
  obtain ⟨ho, hc, ha⟩ := hq
  cases hr : (c.threads u).rest with
  | nil => exact .inl (step_done (hc u) hr)
  | cons op rest' =>
    obtain ⟨body, rfl, hb⟩ := atomic_shape (ha u op (by rw [hr]; exact List.mem_cons_self ..))
    rw [step_next (hc u) hr, exec_acq_free ho]
    exact .inr ⟨held_of_frame rfl (fun i _ => hc i) ha
      (fun o h => by rw [hr]; exact List.mem_cons_of_mem _ h) rfl hb, rfl⟩

theorem step_other {c : Config S L} {t : Nat} (hh : Held c t) {u : Nat} (hu : u ≠ t) : step c u = c := by
  obtain ⟨ho, _, hc, ha⟩ := hh
  cases hr : (c.threads u).rest with
  | nil => exact step_done (hc u hu) hr
  | cons op rest' =>
    obtain ⟨body, rfl, _⟩ := atomic_shape (ha u op (by rw [hr]; exact List.mem_cons_self ..))
    rw [step_next (hc u hu) hr, exec_acq_blocked ho (Ne.symm hu)]

theorem step_holder {c : Config S L} {t : Nat} (hh : Held c t) :
    (Held (step c t) t ∨ Quiescent (step c t)) ∧ (step c t).log = c.log := by
  obtain ⟨ho, hin, hc, ha⟩ := hh
  obtain ⟨d, hd⟩ := Nat.exists_eq_add_one.2 (insideK_pos hin)
  cases hcur : (c.threads t).cur with
  | nil => rw [hcur, hd] at hin; cases hin
  | cons s cur' =>
    rw [hcur, hd] at hin
    rw [step_cur hcur]
    cases s with
    | act g =>
      rw [exec_act]
      exact ⟨.inl (held_of_frame rfl hc ha (fun _ h => h) ho
        (by show insideK c.depth _ = true; rw [hd]; exact hin)), rfl⟩
    | acq =>
      rw [exec_acq_held ho]
      exact ⟨.inl (held_of_frame rfl hc ha (fun _ h => h) ho
        (by show insideK (c.depth + 1) _ = true; rw [hd]; exact hin)), rfl⟩
    | rel =>
      simp only [List.map_cons, MStep.kind, insideK] at hin
      by_cases hd0 : d = 0
      · rw [exec_rel_last ho (by omega)]
        rw [if_pos hd0, List.isEmpty_iff, List.map_eq_nil_iff] at hin
        exact ⟨.inr (quiescent_of_frame rfl hc ha (fun _ h => h) rfl hin), rfl⟩
      · rw [exec_rel_inner ho (by omega)]
        rw [if_neg hd0] at hin
        exact ⟨.inl (held_of_frame rfl hc ha (fun _ h => h) ho
          (by show insideK (c.depth - 1) _ = true; rw [hd]; exact hin)), rfl⟩

/-- Holds of every reachable configuration: a serial prefix, plus the partial progress of the unique
    lock holder. -/
def Good (c0 c : Config S L) : Prop :=
  ∃ order cs, SerialRun c0 order cs ∧ Quiescent cs ∧ cs.log = c0.log ++ order ∧
    (c = cs ∨ ∃ t j, 0 < j ∧ c = stepN t j cs ∧ Held c t ∧ c.log = cs.log ++ [t] ∧
      ∀ i, 0 < i → i ≤ j → (stepN t i cs).owner = some t)

theorem good_step {c0 c : Config S L} (hg : Good c0 c) (u : Nat) : Good c0 (step c u) := by
  obtain ⟨order, cs, hs, hq, hl, hc⟩ := hg
  rcases hc with rfl | ⟨t, j, hj, hcj, hh, hlog, hown⟩
  · rcases step_quiescent hq u with h | ⟨h, hlg⟩
    · rw [h]; exact ⟨order, c, hs, hq, hl, Or.inl rfl⟩
    · refine ⟨order, c, hs, hq, hl, Or.inr ⟨u, 1, by omega, rfl, h, hlg, ?_⟩⟩
      intro i hi hi1
      obtain rfl : i = 1 := by omega
      exact h.1
  · by_cases hu : u = t
    · subst hu
      obtain ⟨hcase, hlg⟩ := step_holder hh
      have hstep : step c u = stepN u (j + 1) cs := by rw [hcj]; rfl
      rcases hcase with h | h
      · refine ⟨order, cs, hs, hq, hl, Or.inr ⟨u, j + 1, by omega, hstep, h, by rw [hlg, hlog], ?_⟩⟩
        intro i hi hij
        by_cases hij' : i ≤ j
        · exact hown i hi hij'
        · obtain rfl : i = j + 1 := by omega
          rw [← hstep]; exact h.1
      · refine ⟨order ++ [u], step c u, .snoc hs ⟨j + 1, by omega, hstep, h.1, ?_⟩, h, ?_, Or.inl rfl⟩
        · intro i hi hij; exact hown i hi (by omega)
        · rw [hlg, hlog, hl, List.append_assoc]
    · rw [step_other hh hu]
      exact ⟨order, cs, hs, hq, hl, Or.inr ⟨t, j, hj, hcj, hh, hlog, hown⟩⟩

theorem good_run {c0 : Config S L} (sch : List Nat) : ∀ c, Good c0 c → Good c0 (run sch c) := by
  induction sch with
  | nil => intro c h; exact h
  | cons u sch ih => intro c h; exact ih _ (good_step h u)

end Psi.Conc

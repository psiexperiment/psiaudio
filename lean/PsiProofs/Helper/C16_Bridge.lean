import PsiProofs.Helper.C07_Real
import PsiProofs.Helper.C16_RootSum
/-!
Bridge between the executable spectrum model of `PsiModel/DbField.lean` at `α := ℝ` and Mathlib's `Finset.sum`,
`Real.cos/sin`, `Complex.exp`.  The DFT theorems are proved on the image of `toC : Cx ℝ → ℂ`.
-/
open Finset

namespace Psi.Db

theorem sumTo_eq (n : ℕ) (f : ℕ → ℝ) : sumTo n f = ∑ j ∈ range n, f j := by
  induction n with
  | zero => simp [sumTo]
  | succ m ih => rw [sumTo, ih, Finset.sum_range_succ]

theorem csumTo_re (n : ℕ) (f : ℕ → Cx ℝ) : (csumTo n f).re = ∑ j ∈ range n, (f j).re := by
  induction n with
  | zero => simp [csumTo, Cx.zero]
  | succ m ih => rw [csumTo, Cx.add, ih, Finset.sum_range_succ]

theorem csumTo_im (n : ℕ) (f : ℕ → Cx ℝ) : (csumTo n f).im = ∑ j ∈ range n, (f j).im := by
  induction n with
  | zero => simp [csumTo, Cx.zero]
  | succ m ih => rw [csumTo, Cx.add, ih, Finset.sum_range_succ]

theorem meanTo_eq (n : ℕ) (f : ℕ → ℝ) : meanTo n f = (∑ j ∈ range n, f j) / n := by
  rw [meanTo, sumTo_eq, nat_real]

theorem cast_ne_zero {n : ℕ} (hn : 0 < n) : (n : ℝ) ≠ 0 := Nat.cast_ne_zero.2 hn.ne'

theorem meanTo_congr (n : ℕ) (f g : ℕ → ℝ) (h : ∀ r, r < n → f r = g r) : meanTo n f = meanTo n g := by
  rw [meanTo_eq, meanTo_eq, Finset.sum_congr rfl fun r hr => h r (Finset.mem_range.1 hr)]

theorem meanTo_eq_of_forall (n : ℕ) (hn : 0 < n) (f : ℕ → ℝ) (c : ℝ) (h : ∀ r, r < n → f r = c) :
    meanTo n f = c := by
  rw [meanTo_eq, Finset.sum_congr rfl fun r hr => h r (Finset.mem_range.1 hr), Finset.sum_const,
    Finset.card_range, nsmul_eq_mul, mul_div_cancel_left₀ _ (cast_ne_zero hn)]

theorem Cx.normSq_smul (c : ℝ) (z : Cx ℝ) : (Cx.smul c z).normSq = c * c * z.normSq := by
  rw [Cx.smul, Cx.normSq, Cx.normSq]
  ring

theorem Cx.abs_polar (z : Cx ℝ) (r p : ℝ) (hre : z.re = r * Real.cos p) (him : z.im = r * Real.sin p) :
    z.abs = |r| := by
  have e : r * Real.cos p * (r * Real.cos p) + r * Real.sin p * (r * Real.sin p) = r ^ 2 := by
    linear_combination r ^ 2 * Real.cos_sq_add_sin_sq p
  rw [Cx.abs, hre, him, sqrt_real, e, Real.sqrt_sq_eq_abs]

theorem ang_eq (n j k : ℕ) : (ang n j k : ℝ) = 2 * Real.pi * k * j / n := by
  simp only [ang, nat_real, pi_real]
  push_cast
  ring

theorem sqrt_two_mul_self : Real.sqrt 2 * Real.sqrt 2 = 2 :=
  Real.mul_self_sqrt (by norm_num)

theorem sqrt_two_pos : 0 < Real.sqrt 2 := Real.sqrt_pos.2 (by norm_num)

theorem sqrt_two_ne_zero : Real.sqrt 2 ≠ 0 := sqrt_two_pos.ne'

theorem csdScale_eq (n : ℕ) : (csdScale n : ℝ) = 2 / n / Real.sqrt 2 := by
  simp [csdScale]

theorem csdScale_ne_zero (n : ℕ) (hn : 0 < n) : (csdScale n : ℝ) ≠ 0 := by
  rw [csdScale_eq]
  have := cast_ne_zero hn
  have := sqrt_two_ne_zero
  positivity

theorem dftBin_re (n : ℕ) (s : ℕ → ℝ) (k : ℕ) :
    (dftBin n s k).re = ∑ j ∈ range n, s j * Real.cos (2 * Real.pi * k * j / n) := by
  rw [dftBin, csumTo_re]
  refine Finset.sum_congr rfl fun j _ => ?_
  simp only [Cx.smul, cis, cos_real, Real.cos_neg, ang_eq]

theorem dftBin_im (n : ℕ) (s : ℕ → ℝ) (k : ℕ) :
    (dftBin n s k).im = -∑ j ∈ range n, s j * Real.sin (2 * Real.pi * k * j / n) := by
  rw [dftBin, csumTo_im, ← Finset.sum_neg_distrib]
  refine Finset.sum_congr rfl fun j _ => ?_
  simp only [Cx.smul, cis, sin_real, Real.sin_neg, ang_eq, mul_neg]

theorem toneSig_eq (n k : ℕ) (A p : ℝ) (j : ℕ) :
    toneSig n k A p j = Real.sqrt 2 * A * Real.cos (2 * Real.pi * k * j / n + p) := by
  simp only [toneSig, sqrt_real, nat_real, cos_real, ang_eq, Nat.cast_ofNat]

def toC (z : Cx ℝ) : ℂ := ⟨z.re, z.im⟩

@[simp] theorem toC_re (z : Cx ℝ) : (toC z).re = z.re := rfl
@[simp] theorem toC_im (z : Cx ℝ) : (toC z).im = z.im := rfl

theorem toC_csumTo (n : ℕ) (f : ℕ → Cx ℝ) : toC (csumTo n f) = ∑ j ∈ range n, toC (f j) := by
  apply Complex.ext
  · rw [toC_re, csumTo_re, Complex.re_sum]; rfl
  · rw [toC_im, csumTo_im, Complex.im_sum]; rfl

theorem toC_cis (θ : ℝ) : toC (cis θ) = Complex.exp (θ * Complex.I) := by
  apply Complex.ext
  · rw [Complex.exp_ofReal_mul_I_re]; rfl
  · rw [Complex.exp_ofReal_mul_I_im]; rfl

theorem toC_smul (c : ℝ) (z : Cx ℝ) : toC (Cx.smul c z) = (c : ℂ) * toC z := by
  apply Complex.ext
  · rw [Complex.re_ofReal_mul]; rfl
  · rw [Complex.im_ofReal_mul]; rfl

theorem toC_div_nat (z : Cx ℝ) (n : ℕ) : toC ⟨z.re / nat n, z.im / nat n⟩ = toC z / (n : ℂ) := by
  apply Complex.ext
  · rw [Complex.div_natCast_re]; rfl
  · rw [Complex.div_natCast_im]; rfl

theorem toC_inj {z z' : Cx ℝ} (h : toC z = toC z') : z = z' := by
  cases z
  cases z'
  injection h with hre him
  exact congr (congrArg Cx.mk hre) him

theorem re_im_of_toC_zero {z : Cx ℝ} (h : toC z = 0) : z.re = 0 ∧ z.im = 0 :=
  ⟨congrArg Complex.re h, congrArg Complex.im h⟩

theorem re_im_of_toC_polar {z : Cx ℝ} {r p : ℝ} (h : toC z = (r : ℂ) * Complex.exp (p * Complex.I)) :
    z.re = r * Real.cos p ∧ z.im = r * Real.sin p := by
  constructor
  · rw [← toC_re, h, Complex.re_ofReal_mul, Complex.exp_ofReal_mul_I_re]
  · rw [← toC_im, h, Complex.im_ofReal_mul, Complex.exp_ofReal_mul_I_im]

theorem toC_cis_neg (n k j : ℕ) :
    toC (cis (-(2 * Real.pi * k * j / n))) = C16.chi n (-(k : ℤ)) j := by
  rw [toC_cis, C16.chi]
  congr 1
  push_cast
  ring

/-- `dftBin` is the discrete Fourier transform `Σ_j s_j e^{-2πi jk/n}` -/
theorem toC_dftBin (n : ℕ) (s : ℕ → ℝ) (k : ℕ) :
    toC (dftBin n s k) = ∑ j ∈ range n, (s j : ℂ) * C16.chi n (-(k : ℤ)) j := by
  rw [dftBin, toC_csumTo]
  exact Finset.sum_congr rfl fun j _ => by rw [toC_smul, ang_eq, toC_cis_neg]

theorem dftBin_congr (n : ℕ) (s s' : ℕ → ℝ) (k : ℕ) (h : ∀ j, j < n → s j = s' j) :
    dftBin n s k = dftBin n s' k := by
  apply toC_inj
  rw [toC_dftBin, toC_dftBin]
  exact Finset.sum_congr rfl fun j hj => by rw [h j (Finset.mem_range.1 hj)]

theorem csd_congr (n : ℕ) (s s' : ℕ → ℝ) (k : ℕ) (h : ∀ j, j < n → s j = s' j) :
    csd n s k = csd n s' k := by
  rw [csd, csd, dftBin_congr n s s' k h]

theorem csdW_congr (n : ℕ) (w s s' : ℕ → ℝ) (k : ℕ) (h : ∀ j, j < n → s j = s' j) :
    csdW n w s k = csdW n w s' k :=
  csd_congr n _ _ k fun j hj => by rw [applyWindow, applyWindow, h j hj]

theorem toC_csd (n : ℕ) (s : ℕ → ℝ) (k : ℕ) :
    toC (csd n s k) = ((2 / n / Real.sqrt 2 : ℝ) : ℂ) * toC (dftBin n s k) := by
  rw [csd, toC_smul, csdScale_eq]

end Psi.Db

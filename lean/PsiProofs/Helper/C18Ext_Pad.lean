import PsiModel.EpochsExt
import PsiProofs.Helper.C18_Epochs
/-! `epochs(x, pad)`: as long as no slice bound is negative, the two padding loops dilate the signal. -/
namespace Psi.EpochsExt
open Psi.Epochs

/-- discrete intermediate value: between a sample `!v` and a later sample `v` there is an edge to `v` -/
theorem exists_edge_between (v : Bool) (x : List Bool) (i : Nat) : ∀ j, i < j →
    x[i]? = some (!v) → x[j]? = some v →
    ∃ s, i < s ∧ s ≤ j ∧ x[s]? = some v ∧ x[s - 1]? = some (!v) := by
  intro j
  induction j with
  | zero => intro h; omega
  | succ j ih =>
    intro hij hi hj
    have hlen := (List.getElem?_eq_some_iff.mp hj).1
    by_cases hb : x[j]'(by omega) = v
    · have hjv : x[j]? = some v := by rw [List.getElem?_eq_getElem (by omega), hb]
      have hlt : i < j := by
        rcases Nat.lt_or_ge i j with h | h
        · exact h
        · have : i = j := by omega
          subst this; rw [hi] at hjv; cases v <;> cases hjv
      obtain ⟨s, h1, h2, h3, h4⟩ := ih hlt hi hjv
      exact ⟨s, h1, by omega, h3, h4⟩
    · exact ⟨j + 1, hij, Nat.le_refl _, hj, by
        rw [Nat.add_sub_cancel, List.getElem?_eq_getElem (by omega), Bool.eq_not.mpr hb]⟩

theorem adjust_natCast (n k : Nat) : adjust n (k : Int) = min k n := by
  unfold adjust
  rw [if_neg (Int.not_lt.mpr (Int.natCast_nonneg k))]
  by_cases h : n ≤ k
  · rw [if_pos (Int.ofNat_le.mpr h), Nat.min_eq_right h]
  · rw [if_neg (fun h' => h (Int.ofNat_le.mp h')), Int.toNat_natCast, Nat.min_eq_left (Nat.le_of_not_le h)]

theorem pySlice_natCast (n a b : Nat) : pySlice n (a : Int) (b : Int) = (min a n, min b n) := by
  rw [pySlice, adjust_natCast, adjust_natCast]

/-- which samples the two padding loops write, when the slice before a rising edge `s` starts at
`s - p` clipped at 0 (`before` is `s - pad` under the guard, `max (s - pad) 0` in the repaired code) -/
theorem inSlices_iff (x : List Bool) (p i : Nat) (hi : i < x.length) (before : Nat → Int)
    (hb : ∀ s ∈ tsRising x, before s = ((s - p : Nat) : Int)) :
    inSlices ((tsRising x).map (fun (s : Nat) => pySlice x.length (before s) (s : Int)) ++
        (tsFalling x).map (fun (e : Nat) => pySlice x.length (e : Int) ((e : Int) + (p : Int)))) i = true ↔
      (∃ s ∈ tsRising x, s - p ≤ i ∧ i < s) ∨ (∃ e ∈ tsFalling x, e ≤ i ∧ i < e + p) := by
  have hmin : ∀ k, (min k x.length ≤ i ↔ k ≤ i) ∧ (i < min k x.length ↔ i < k) := fun k => by omega
  simp only [inSlices, List.any_append, List.any_map, Bool.or_eq_true, List.any_eq_true,
    Function.comp, Bool.and_eq_true, decide_eq_true_eq]
  refine or_congr (exists_congr fun s => and_congr_right fun hs => ?_)
    (exists_congr fun e => and_congr_right fun _ => ?_)
  · rw [hb s hs, pySlice_natCast, (hmin _).1, (hmin _).2]
  · rw [← Int.natCast_add, pySlice_natCast, (hmin _).1, (hmin _).2]

theorem edges_iff_dilation (x : List Bool) (p i : Nat) (hi : i < x.length) :
    (x[i] = true ∨ (∃ s ∈ tsRising x, s - p ≤ i ∧ i < s) ∨ (∃ e ∈ tsFalling x, e ≤ i ∧ i < e + p)) ↔
      ∃ j, x[j]? = some true ∧ i ≤ j + p ∧ j ≤ i + p := by
  constructor
  · rintro (h | ⟨s, hs, h1, h2⟩ | ⟨e, he, h1, h2⟩)
    · exact ⟨i, by rw [List.getElem?_eq_getElem hi, h], Nat.le_add_right i p, Nat.le_add_right i p⟩
    · exact ⟨s, ((mem_tsRising x s).mp hs).2.1, Nat.le_of_lt (Nat.lt_add_right p h2),
        Nat.sub_le_iff_le_add.mp h1⟩
    · obtain ⟨he1, -, he2⟩ := (mem_tsFalling x e).mp he
      exact ⟨e - 1, he2, by omega, by omega⟩
  · rintro ⟨j, hj, h1, h2⟩
    cases hb : x[i] with
    | true => exact Or.inl rfl
    | false =>
      have hif : x[i]? = some false := by rw [List.getElem?_eq_getElem hi, hb]
      right
      rcases Nat.lt_trichotomy i j with hlt | heq | hgt
      · obtain ⟨s, a1, a2, a3, a4⟩ := exists_edge_between true x i j hlt hif hj
        exact Or.inl ⟨s, (mem_tsRising x s).mpr ⟨Nat.succ_le_of_lt (Nat.zero_lt_of_lt a1), a3, a4⟩,
          Nat.sub_le_iff_le_add.mpr (Nat.le_trans a2 h2), a1⟩
      · subst heq; rw [hif] at hj; cases hj
      · obtain ⟨e, a1, a2, a3, a4⟩ := exists_edge_between false x j i hgt hj hif
        exact Or.inr ⟨e, (mem_tsFalling x e).mpr ⟨Nat.succ_le_of_lt (Nat.zero_lt_of_lt a1), a3, a4⟩,
          a2, by omega⟩

theorem dilate_length (x : List Bool) (p : Nat) : (dilate x p).length = x.length := by
  simp [dilate]

theorem dilate_getElem_iff (x : List Bool) (p i : Nat) (hi : i < (dilate x p).length) :
    (dilate x p)[i] = true ↔ ∃ j, x[j]? = some true ∧ i ≤ j + p ∧ j ≤ i + p := by
  simp only [dilate, List.getElem_mapIdx, List.any_eq_true, List.mem_range, Bool.and_eq_true,
    beq_iff_eq, decide_eq_true_eq]
  constructor
  · rintro ⟨j, _, ⟨h1, h2⟩, h3⟩
    exact ⟨j, h1, h2, h3⟩
  · rintro ⟨j, h1, h2, h3⟩
    exact ⟨j, (List.getElem?_eq_some_iff.mp h1).1, ⟨h1, h2⟩, h3⟩

theorem mapIdx_or_inSlices_eq_dilate (x : List Bool) (p : Nat) (sl : List (Nat × Nat))
    (h : ∀ i, i < x.length → (inSlices sl i = true ↔
      (∃ s ∈ tsRising x, s - p ≤ i ∧ i < s) ∨ (∃ e ∈ tsFalling x, e ≤ i ∧ i < e + p))) :
    (if (p : Int) = 0 then x else x.mapIdx (fun i b => b || inSlices sl i)) = dilate x p := by
  apply List.ext_getElem
  · split <;> simp [dilate_length]
  · intro i h1 h2
    have hi : i < x.length := by rw [dilate_length] at h2; exact h2
    rw [Bool.eq_iff_iff, dilate_getElem_iff, ← edges_iff_dilation x p i hi]
    by_cases hp : (p : Int) = 0
    · have hp0 : p = 0 := by omega
      subst hp0
      simp only [hp, if_true]
      constructor
      · exact Or.inl
      · rintro (h | ⟨s, _, a1, a2⟩ | ⟨e, _, a1, a2⟩)
        · exact h
        · omega
        · omega
    · simp only [hp, if_false, List.getElem_mapIdx, Bool.or_eq_true]
      rw [h i hi]

theorem padded_eq_dilate (x : List Bool) (p : Nat) (guard : ∀ s ∈ tsRising x, p ≤ s) :
    padded x (p : Int) = dilate x p :=
  mapIdx_or_inSlices_eq_dilate x p _ fun i hi =>
    inSlices_iff x p i hi (fun s => (s : Int) - (p : Int)) fun s hs => by have := guard s hs; omega

theorem paddedFixed_eq_dilate (x : List Bool) (p : Nat) : paddedFixed x (p : Int) = dilate x p :=
  mapIdx_or_inSlices_eq_dilate x p _ fun i hi =>
    inSlices_iff x p i hi (fun s => max ((s : Int) - (p : Int)) 0) fun s _ => by omega

end Psi.EpochsExt

import PsiProofs.Helper.C06_Run
/-!
Histories without `pause(m)`: nothing is ever cancelled, every notified trial stays logged, and its
whole inter-trial gap is silence on the timeline (`NPInv`).  Also, for all histories: reading the
epoch of a kept trial off the timeline (`kept_epoch`).
-/
namespace Psi.E2E
open Psi.Queue Psi.Extract

def GapAt (K0 : Int) (V : List Cell) (i : Info) : Prop :=
  K0 + i.k + (i.len : Int) + (i.delay.toNat : Int) ≤ (V.length : Int) ∧
  ∀ p : Nat, K0 + i.k + (i.len : Int) ≤ (p : Int) →
    (p : Int) < K0 + i.k + (i.len : Int) + (i.delay.toNat : Int) → V[p]? = some Cell.Z

theorem GapAt_append {K0 : Int} {V : List Cell} {i : Info} (h : GapAt K0 V i) (X : List Cell) :
    GapAt K0 (V ++ X) i := by
  refine ⟨?_, fun p h1 h2 => ?_⟩
  · rw [List.length_append]
    exact Int.le_trans h.1 (Int.ofNat_le.2 (Nat.le_add_right _ _))
  · have := h.1
    rw [List.getElem?_append_left (by omega)]
    exact h.2 p h1 h2

theorem GapAt_start {K0 : Int} (V : List Cell) (info : Info) (hk : K0 + info.k = (V.length : Int)) :
    GapAt K0 (V ++ (wave info.key 0 info.len ++ zeros info.delay.toNat)) info :=
  ⟨by rw [start_length]; omega, fun p h1 h2 => start_gap V _ _ _ (by omega) (by omega)⟩

structure NPInv (K0 : Int) (q : QState) (tl : List Cell) : Prop where
  norem : q.removed = []
  all : q.generated = q.added
  gap : ∀ i ∈ q.generated, GapAt K0 (tl ++ rest q) i

theorem NPInv_tick {K0 : Int} {q q' : QState} {tl : List Cell} {c : Cell} (inv : QInv K0 q tl)
    (np : NPInv K0 q tl) (h : tick q = .ok (c, q')) : NPInv K0 q' (tl ++ [c]) := by
  obtain ⟨tv, hrm, _⟩ := tick_view inv.len inv.idle h
  cases tv with
  | quiet z hg ha hv =>
    exact ⟨by rw [hrm]; exact np.norem, by rw [hg, ha]; exact np.all,
      by rw [hv, hg]; exact fun i hi => GapAt_append (np.gap i hi) _⟩
  | start info hg ha hk hl hu hv =>
    refine ⟨by rw [hrm]; exact np.norem, by rw [hg, ha, np.all], ?_⟩
    rw [hv, hg]
    intro i hi
    rcases List.mem_append.1 hi with hi | hi
    · exact GapAt_append (np.gap i hi) _
    · rw [List.mem_singleton.1 hi]; exact GapAt_start _ info hk

theorem NP_step (c : Cfg) {J J' : JState} (ev : Ev) (inv : JInv c J) (np : NPInv c.K0 J.q J.tl)
    (hnp : isPause ev = false) (h : jstep c J ev = .ok J') : NPInv c.K0 J'.q J'.tl := by
  cases jstep_ok c h with
  | pop hp =>
    exact (pop_induction (P := fun q1 cs => QInv c.K0 q1 (J.tl ++ cs) ∧ NPInv c.K0 q1 (J.tl ++ cs))
      (fun ⟨i1, n1⟩ ht => ⟨by simpa using (QInv_tick i1 ht).1, by simpa using NPInv_tick i1 n1 ht⟩)
      inv.q.wf ⟨by simpa using inv.q, by simpa using np⟩ hp).2
  | pauseNone _ => exact ⟨np.norem, np.all, np.gap⟩
  | pauseSome _ _ => cases hnp
  | resumeNone => exact ⟨np.norem, np.all, np.gap⟩
  | @resumeSome m _ hi =>
    refine ⟨np.norem, np.all, ?_⟩
    simp only
    rw [resume_view J.q J.tl m hi]
    exact fun i hi => GapAt_append (np.gap i hi) _
  | acq _ _ _ => exact np

theorem NPInv_init (c : Cfg) (q0 : QState) (h : Start q0) :
    NPInv c.K0 (JState.init c q0).q (JState.init c q0).tl := by
  refine ⟨h.removed, by simp [JState.init, h.generated, h.added], ?_⟩
  intro i hi; simp [JState.init, h.generated] at hi

theorem JNP_run (c : Cfg) (evs : List Ev) {J J' : JState} (henc : EncInj c)
    (inv : JInv c J) (np : NPInv c.K0 J.q J.tl) (hnp : ∀ ev ∈ evs, isPause ev = false)
    (h : jrun c evs J = .ok J') : JInv c J' ∧ NPInv c.K0 J'.q J'.tl := by
  induction evs generalizing J with
  | nil => cases h; exact ⟨inv, np⟩
  | cons ev evs ih =>
    obtain ⟨J1, hs, hr⟩ := jrun_cons h
    have hev := hnp ev List.mem_cons_self
    have inv1 : JInv c J1 := JInv_step c henc ev inv hs (fun hp => by rw [hev] at hp; cases hp)
    exact ih inv1 (NP_step c ev inv np hev hs) (fun e he => hnp e (List.mem_cons_of_mem _ he)) hr

/-- the start sample is not negative because the call that took the request in found it inside the
look-back window -/
theorem locate (c : Cfg) {J : JState} (inv : JInv c J) {seen : List Note} (g : GInv c J seen) (i : Info)
    (hia : i ∈ J.q.added) (hseen : Note.add i ∉ J.pend) :
    Note.add i ∈ seen ∧ 0 ≤ (reqOf c i).s := by
  have h1 : Note.add i ∈ seen :=
    (List.mem_append.1 (mem_add?.1 (by rw [g.adds]; exact hia))).resolve_right hseen
  have h2 : reqOf c i ∈ allReqs J.eops := by
    rw [g.seenReqs]; exact List.mem_filterMap.2 ⟨Note.add i, h1, rfl⟩
  refine ⟨h1, ?_⟩
  obtain ⟨o0, ho, hr⟩ := List.mem_flatMap.1 h2
  obtain ⟨pre, rest, heq⟩ := List.append_of_mem ho
  have hv := inv.n.valid
  rw [heq] at hv
  have h3 := ((allValidSeq_append c.B c.L [] pre (o0 :: rest)).1 hv).2
  simp only [AllValidSeq] at h3
  have := h3.1.visible _ hr
  omega

/-- a logged trial is the outstanding trial of its key (every earlier trial with that key was
cancelled in time), so the one epoch under the key is `stream[s, s+L)` of its own request -/
theorem kept_delivered (c : Cfg) {J : JState} (inv : JInv c J) (i : Info) (hi : i ∈ J.q.generated)
    (hseen : Note.add i ∉ J.pend)
    (hreached : (c.K0 : Int) + i.k - (c.P : Int) + (c.L : Int) ≤ (J.acq : Int)) :
    (deliveries c.B J.eops (reqOf c i).key).flatten = [epochOf (streamOf J.eops) (reqOf c i)] ∧
      0 ≤ (reqOf c i).s ∧ (reqOf c i).s.toNat + (reqOf c i).len ≤ J.acq := by
  obtain ⟨seen, g⟩ := inv.g
  have hia := inv.q.emb.gensub i hi
  obtain ⟨h1, hs0⟩ := locate c inv g i hia hseen
  have := reqOf_s c i
  have hlv := reqOf_len c i
  have hacq : (reqOf c i).s.toNat + (reqOf c i).len ≤ J.acq := by rw [hlv]; omega
  have hout := logged_outstanding inv g (List.prefix_append seen J.pend) hi h1
  have hd : doneAt (reqOf c i) J.acq = true := by simpa [doneAt] using hacq
  rw [deliveries_key c inv g, hout]
  simp [Option.filter, hd, hacq, hs0]

/-- after its `P` pre-stimulus samples the epoch of a kept trial is the played timeline from the
trial's start `K0 + k` on -/
theorem kept_epoch (c : Cfg) {J : JState} (inv : JInv c J) (i : Info) (hi : i ∈ J.q.generated)
    (hseen : Note.add i ∉ J.pend)
    (hreached : (c.K0 : Int) + i.k - (c.P : Int) + (c.L : Int) ≤ (J.acq : Int)) :
    (deliveries c.B J.eops (reqOf c i).key).flatten = [epochOf (streamOf J.eops) (reqOf c i)] ∧
    (epochOf (streamOf J.eops) (reqOf c i)).data.length = c.L ∧
    ∀ y, c.P + y < c.L → ∃ p : Nat, (p : Int) = (c.K0 : Int) + i.k + (y : Int) ∧ p < J.tl.length ∧
      (epochOf (streamOf J.eops) (reqOf c i)).data[c.P + y]? = (J.tl ++ rest J.q)[p]? := by
  obtain ⟨hdel, hs0, hacq⟩ := kept_delivered c inv i hi hseen hreached
  have := reqOf_s c i
  have hl := reqOf_len c i
  have := inv.acq
  refine ⟨hdel, ?_, fun y hy => ⟨(reqOf c i).s.toNat + c.P + y, by omega, by omega, ?_⟩⟩
  · exact slice_length _ _ _ (by rw [inv.stream, List.length_take]; omega)
  · -- inside what was acquired the stream is the timeline
    simp only [epochOf, slice]
    rw [hl, List.getElem?_take_of_lt hy, List.getElem?_drop, inv.stream, List.getElem?_take_of_lt (by omega),
      List.getElem?_append_left (by omega), Nat.add_assoc]

theorem drop_eq_append_replicate {α} {l w : List α} {z : α} {P L : Nat} (hl : l.length = L)
    (h1 : ∀ j, j < w.length → l[P + j]? = w[j]?)
    (h2 : ∀ j, w.length ≤ j → P + j < L → l[P + j]? = some z) :
    l.drop P = w ++ List.replicate (L - P - w.length) z := by
  apply List.ext_getElem?
  intro x
  rw [List.getElem?_drop]
  by_cases hx : x < w.length
  · rw [List.getElem?_append_left hx]; exact h1 x hx
  · rw [List.getElem?_append_right (by omega), List.getElem?_replicate]
    by_cases hxL : P + x < L
    · rw [if_pos (by omega)]; exact h2 x (by omega) hxL
    · rw [if_neg (by omega)]; exact List.getElem?_eq_none (by omega)

end Psi.E2E

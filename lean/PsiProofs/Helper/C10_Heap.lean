import PsiModel.Cache
/-! Heap lemmas for the memo wrapper (C10 a). -/
namespace Psi.Cache

theorem lookup_mem {κ β} [DecidableEq κ] {c : List (κ × β)} {k : κ} {v : β}
    (h : lookup c k = some v) : (k, v) ∈ c := by
  induction c with
  | nil => simp [lookup] at h
  | cons p c ih =>
    obtain ⟨k', v'⟩ := p
    simp only [lookup] at h
    split at h
    · cases h; subst_vars; exact List.mem_cons_self
    · exact List.mem_cons_of_mem _ (ih h)

variable {α : Type}

theorem readAll_lt {heap : List (List α)} {as : List Nat} {vs : List (List α)}
    (h : readAll heap as = some vs) : ∀ a ∈ as, a < heap.length := by
  induction as generalizing vs with
  | nil => intro a ha; cases ha
  | cons a as ih =>
    simp only [readAll] at h
    split at h
    · rename_i v vs' hv hvs
      intro b hb
      rcases List.mem_cons.mp hb with rfl | hb
      · exact (List.getElem?_eq_some_iff.mp hv).1
      · exact ih hvs b hb
    · cases h

theorem readAll_congr {heap heap' : List (List α)} {as : List Nat}
    (h : ∀ a ∈ as, heap'[a]? = heap[a]?) : readAll heap' as = readAll heap as := by
  induction as with
  | nil => rfl
  | cons a as ih =>
    simp only [readAll, h a List.mem_cons_self, ih fun b hb => h b (List.mem_cons_of_mem _ hb)]

theorem readAll_append {heap : List (List α)} {as : List Nat} {vs : List (List α)} (x : List (List α))
    (h : readAll heap as = some vs) : readAll (heap ++ x) as = some vs :=
  (readAll_congr fun a ha => List.getElem?_append_left (readAll_lt h a ha)).trans h

theorem readAll_fresh (heap vs : List (List α)) :
    readAll (heap ++ vs) (List.range' heap.length vs.length) = some vs := by
  induction vs generalizing heap with
  | nil => simp [readAll]
  | cons v vs ih =>
    have h1 : (heap ++ v :: vs)[heap.length]? = some v := by simp
    have h2 := ih (heap ++ [v])
    simp only [List.length_append, List.length_cons, List.length_nil, List.append_assoc,
      List.cons_append, List.nil_append] at h2
    simp only [List.length_cons, List.range'_succ, readAll, h1, h2]

theorem readAll_set_ne {heap : List (List α)} {as : List Nat} {a : Nat} (x : List α)
    (h : a ∉ as) : readAll (heap.set a x) as = readAll heap as :=
  readAll_congr fun b hb => List.getElem?_set_ne fun (e : a = b) => h (e ▸ hb)

theorem setCell_length (heap : List (List α)) (a i : Nat) (x : α) :
    (setCell heap a i x).length = heap.length := by
  unfold setCell; split <;> simp

theorem fillCell_length (heap : List (List α)) (a : Nat) (x : α) :
    (fillCell heap a x).length = heap.length := by
  unfold fillCell; split <;> simp

theorem readAll_setCell {heap : List (List α)} {as : List Nat} {a : Nat} (i : Nat) (x : α)
    (h : a ∉ as) : readAll (setCell heap a i x) as = readAll heap as := by
  unfold setCell; split
  · exact readAll_set_ne _ h
  · rfl

theorem readAll_fillCell {heap : List (List α)} {as : List Nat} {a : Nat} (x : α)
    (h : a ∉ as) : readAll (fillCell heap a x) as = readAll heap as := by
  unfold fillCell; split
  · exact readAll_set_ne _ h
  · rfl

end Psi.Cache

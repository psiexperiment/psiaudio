import PsiModel.Stim
import PsiProofs.Helper.C01_Update
import Mathlib.Data.Rat.Floor
import Mathlib.Tactic.Linarith
import Mathlib.Tactic.Ring
/-! `square_wave` (with fix 4): the rational-period stride loop returns the
`[offset, offset+samples)` slice of `squareAt`, for every positive rational period, every
duty length, every offset and sample count.  Exact rational arithmetic throughout. -/
namespace Psi.Stim
open Psi.Chunk

variable {α : Type}

theorem rhe_cases (x : Rat) :
    (roundHalfEven x = x.floor ∧ x - x.floor ≤ 1 / 2) ∨ (roundHalfEven x = x.floor + 1 ∧ 1 / 2 ≤ x - x.floor) := by
  unfold roundHalfEven
  simp only []
  split
  · rename_i a; exact .inl ⟨rfl, le_of_lt a⟩
  · rename_i a
    split
    · rename_i b; exact .inr ⟨rfl, le_of_lt b⟩
    · rename_i b
      split
      · exact .inl ⟨rfl, not_lt.mp b⟩
      · exact .inr ⟨rfl, not_lt.mp a⟩

theorem rhe_bounds (x : Rat) : (x - 1 / 2 ≤ (roundHalfEven x : Rat)) ∧ ((roundHalfEven x : Rat) ≤ x + 1 / 2) := by
  have h1 : ((x.floor : Int) : Rat) ≤ x := Int.floor_le x
  have h2 : x < ((x.floor : Int) : Rat) + 1 := Int.lt_floor_add_one x
  rcases rhe_cases x with ⟨e, h⟩ | ⟨e, h⟩
  · rw [e]
    exact ⟨sub_le_comm.mp h, h1.trans (le_add_of_nonneg_right one_half_pos.le)⟩
  · rw [e, Int.cast_add, Int.cast_one]
    exact ⟨(sub_le_self x one_half_pos.le).trans h2.le, by linarith⟩

theorem rhe_le_of_lt (x : Rat) (z : Int) (h : x < (z : Rat) + 1 / 2) : roundHalfEven x ≤ z := by
  have : (roundHalfEven x : Rat) < ((z + 1 : Int) : Rat) := by
    rw [Int.cast_add, Int.cast_one, ← add_halves (1 : Rat), ← add_assoc]
    exact (rhe_bounds x).2.trans_lt (add_lt_add_left h _)
  exact Int.lt_add_one_iff.mp (Int.cast_lt.mp this)

theorem lt_rhe_of_lt (x : Rat) (z : Int) (h : (z : Rat) + 1 / 2 < x) : z < roundHalfEven x :=
  Int.cast_lt.mp ((lt_sub_iff_add_lt.mpr h).trans_le (rhe_bounds x).1)

theorem le_of_rhe_le (x : Rat) (z : Int) (h : roundHalfEven x ≤ z) : x ≤ (z : Rat) + 1 / 2 :=
  sub_le_iff_le_add.mp ((rhe_bounds x).1.trans (Int.cast_le.mpr h))

theorem rhe_mono {x y : Rat} (h : x ≤ y) : roundHalfEven x ≤ roundHalfEven y := by
  rcases h.lt_or_eq with hlt | rfl
  · by_contra hc
    have h1 := le_of_rhe_le y (roundHalfEven x - 1) (by omega)
    have h2 := (rhe_bounds x).2
    rw [Int.cast_sub, Int.cast_one] at h1
    linarith
  · exact le_refl _

theorem rhe_intCast (z : Int) : roundHalfEven (z : Rat) = z := by
  have hf : (z : Rat).floor = z := Rat.floor_intCast z
  rcases rhe_cases z with ⟨e, _⟩ | ⟨_, h⟩
  · rw [e, hf]
  · rw [hf, sub_self] at h
    exact absurd h (by norm_num)

theorem startOf_mono (p : SqP) (hp : 0 ≤ p.period) {i j : Int} (h : i ≤ j) : p.startOf i ≤ p.startOf j := by
  unfold SqP.startOf
  apply rhe_mono
  have : (i : Rat) ≤ (j : Rat) := by exact_mod_cast h
  exact mul_le_mul_of_nonneg_left this hp

theorem lt_of_startOf_lt (p : SqP) (hp : 0 ≤ p.period) {i j : Int} (h : p.startOf i < p.startOf j) : i < j := by
  by_contra hc
  have := startOf_mono p hp (show j ≤ i by omega)
  omega

theorem periodAt_spec (p : SqP) (hp : 0 < p.period) (k : Nat) :
    p.startOf (p.periodAt k) ≤ (k : Int) ∧ (k : Int) < p.startOf (p.periodAt k + 1) := by
  have hm1 : (((((k : Rat) + 1 / 2) / p.period).floor : Int) : Rat) ≤ ((k : Rat) + 1 / 2) / p.period :=
    Int.floor_le _
  have hm2 : ((k : Rat) + 1 / 2) / p.period < (((((k : Rat) + 1 / 2) / p.period).floor : Int) : Rat) + 1 :=
    Int.lt_floor_add_one _
  rw [le_div_iff₀' hp] at hm1
  rw [div_lt_iff₀' hp] at hm2
  unfold SqP.periodAt
  simp only []
  generalize (((k : Rat) + 1 / 2) / p.period).floor = m at hm1 hm2
  have hnext : (k : Int) < p.startOf (m + 1) :=
    lt_rhe_of_lt _ _ (by rwa [Int.cast_natCast, Int.cast_add, Int.cast_one])
  split
  · rename_i h
    exact ⟨h, hnext⟩
  · rename_i h
    -- `round(P·m) > k` although `P·m ≤ k + 1/2`: a tie that rounded up, so period `m - 1` is in progress
    have hhalf : p.period * (m : Rat) = (k : Rat) + 1 / 2 :=
      le_antisymm hm1 (not_lt.mp fun hc => h (rhe_le_of_lt _ _ (by rwa [Int.cast_natCast])))
    constructor
    · apply rhe_le_of_lt
      rw [Int.cast_sub, Int.cast_one, Int.cast_natCast, mul_sub, mul_one, hhalf]
      exact sub_lt_self _ hp
    · rw [Int.sub_add_cancel]
      exact Int.lt_of_not_ge h

theorem periodAt_unique (p : SqP) (hp : 0 < p.period) (k : Nat) (i : Int)
    (h1 : p.startOf i ≤ (k : Int)) (h2 : (k : Int) < p.startOf (i + 1)) : i = p.periodAt k := by
  have hs := periodAt_spec p hp k
  have a := lt_of_startOf_lt p (le_of_lt hp) (show p.startOf i < p.startOf (p.periodAt k + 1) by omega)
  have b := lt_of_startOf_lt p (le_of_lt hp) (show p.startOf (p.periodAt k) < p.startOf (i + 1) by omega)
  omega

/-- Both branches of one pass in one form: the table without what lies before the chunk start, written
from the period's start in the chunk (0 when it began earlier), as much as fits. -/
theorem squareStep_eq (tbl : List α) (p : SqP) (htbl : tbl.length = p.duty) (off n : Nat)
    (env : List α) (i : Int) :
    squareStep tbl p off n env i = setSlice env (p.startOf i - off).toNat
      ((tbl.drop ((off : Int) - p.startOf i).toNat).take (n - (p.startOf i - off).toNat)) := by
  unfold squareStep
  rcases Int.lt_or_le (p.startOf i - off) 0 with h | h
  · -- the period started `a > 0` samples before the chunk: the code reads the table from position `a`
    obtain ⟨a, ha⟩ := Int.eq_ofNat_of_zero_le (show 0 ≤ (off : Int) - p.startOf i by omega)
    have hs : p.startOf i - off = -(a : Int) := by omega
    simp only [hs, ha]
    rw [if_pos (by omega), Int.toNat_neg_natCast, Int.toNat_natCast, Nat.sub_zero]
    rcases Nat.lt_or_ge a p.duty with hlt | hge
    · obtain ⟨r, hr⟩ := Nat.le.dest hlt.le
      have e : (p.duty : Int) + -(a : Int) = (r : Int) := by omega
      rw [e, if_pos (by omega), clip_zero_natCast, Int.toNat_natCast, Int.toNat_natCast, ← hr,
        Nat.add_sub_cancel, Nat.min_comm, ← List.take_take,
        List.take_of_length_le (show (tbl.drop a).length ≤ r by
          rw [List.length_drop, htbl, ← hr, Nat.add_sub_cancel_left])]
    · rw [if_neg (by omega), List.drop_of_length_le (htbl ▸ hge), List.take_nil, setSlice_nil]
  · -- the period starts at position `a` of the chunk: the table is written from there (nothing when `a ≥ n`)
    obtain ⟨a, ha⟩ := Int.eq_ofNat_of_zero_le h
    have hs : (off : Int) - p.startOf i = -(a : Int) := by omega
    simp only [hs, ha]
    rw [if_neg (by omega), ← Int.natCast_add, clip_zero_natCast, clip_zero_natCast, Int.toNat_neg_natCast,
      List.drop_zero]
    simp only [Int.toNat_natCast, Int.toNat_sub]
    rcases Nat.le_total a n with h | h
    · obtain ⟨c, rfl⟩ := Nat.le.dest h
      rw [Nat.min_eq_left h, Nat.add_min_add_left, Nat.add_sub_cancel_left, Nat.add_sub_cancel_left,
        Nat.min_comm, ← List.take_take, List.take_of_length_le (Nat.le_of_eq htbl)]
    · rw [Nat.min_eq_right h, Nat.min_eq_right (Nat.le_add_right_of_le h), Nat.sub_self,
        Nat.sub_eq_zero_of_le h, List.take_zero, setSlice_nil, setSlice_nil]

theorem squareStep_length (tbl : List α) (p : SqP) (htbl : tbl.length = p.duty) (off n : Nat) (env : List α)
    (henv : env.length = n) (i : Int) : (squareStep tbl p off n env i).length = n := by
  subst henv
  rw [squareStep_eq tbl p htbl, setSlice_take_length]

/-- The chunk positions and table indices of `squareStep_eq` in terms of absolute positions. -/
theorem squareStep_arith (s : Int) (off j duty : Nat) :
    ((off : Int) - s).toNat + (j - (s - off).toNat) = ((off : Int) + j - s).toNat ∧
      (((s - off).toNat ≤ j ∧ j < (s - off).toNat + (duty - ((off : Int) - s).toNat))
        ↔ (s ≤ (off : Int) + j ∧ (off : Int) + j < s + duty)) := by
  omega

theorem squareStep_getElem? (tbl : List α) (p : SqP) (htbl : tbl.length = p.duty) (off n : Nat) (env : List α)
    (henv : env.length = n) (i : Int) (j : Nat) (hj : j < n) :
    (squareStep tbl p off n env i)[j]? =
      if p.startOf i ≤ (off : Int) + j ∧ (off : Int) + j < p.startOf i + p.duty then
        tbl[((off : Int) + j - p.startOf i).toNat]?
      else env[j]? := by
  subst henv
  have h := squareStep_arith (p.startOf i) off j p.duty
  rw [squareStep_eq tbl p htbl, setSlice_take_getElem? _ _ _ _ hj, List.length_drop, htbl, List.getElem?_drop, h.1]
  exact if_congr h.2 rfl rfl

theorem squareLoop_length (tbl : List α) (p : SqP) (htbl : tbl.length = p.duty) (off n : Nat) :
    ∀ (fuel : Nat) (i : Int) (env : List α), env.length = n →
      (squareLoop tbl p off n fuel i env).length = n := by
  intro fuel
  induction fuel with
  | zero => intro i env h; exact h
  | succ fuel ih =>
    intro i env h
    simp only [squareLoop]
    split
    · exact squareStep_length tbl p htbl off n env h i
    · exact ih _ _ (squareStep_length tbl p htbl off n env h i)

theorem squareLoop_later (tbl : List α) (p : SqP) (htbl : tbl.length = p.duty) (hp : 0 ≤ p.period)
    (off n j : Nat) (hj : j < n) :
    ∀ (fuel : Nat) (i : Int) (env : List α), env.length = n → (off : Int) + j < p.startOf i →
      (squareLoop tbl p off n fuel i env)[j]? = env[j]? := by
  intro fuel
  induction fuel with
  | zero => intro i env _ _; rfl
  | succ fuel ih =>
    intro i env h hs
    have hstep : (squareStep tbl p off n env i)[j]? = env[j]? := by
      rw [squareStep_getElem? tbl p htbl off n env h i j hj, if_neg (by omega)]
    simp only [squareLoop]
    split
    · exact hstep
    · rw [ih _ _ (squareStep_length tbl p htbl off n env h i)
        (by have := startOf_mono p hp (show i ≤ i + 1 by omega); omega), hstep]

/-- The break test `fm_samples * i - offset > samples` is false up to any period that starts inside
the chunk. -/
theorem no_break_of_startOf_le (p : SqP) (hp : 0 ≤ p.period) (off n j : Nat) (hj : j < n) (m : Int)
    (hm : p.startOf m ≤ (off : Int) + j) (i : Int) (hi : i ≤ m) :
    ¬ (p.period * (i : Rat) - (off : Rat) > (n : Rat)) := by
  have h := le_of_rhe_le _ _ hm
  have hjn : ((j : Rat) + 1 ≤ (n : Rat)) := by exact_mod_cast hj
  have hle := mul_le_mul_of_nonneg_left (Int.cast_le.mpr hi : (i : Rat) ≤ m) hp
  rw [Int.cast_add, Int.cast_natCast, Int.cast_natCast] at h
  intro hc
  linarith

/-- Loop invariant: started at a period `i ≤ m`, `m` the period in progress at sample `j`, with fuel
enough to reach the break test, the loop leaves at `j` what the pass for period `m` leaves there. -/
theorem squareLoop_getElem? (tbl : List α) (p : SqP) (htbl : tbl.length = p.duty) (hp : 0 ≤ p.period)
    (off n j : Nat) (hj : j < n)
    (m : Int) (hm1 : p.startOf m ≤ (off : Int) + j) (hm2 : (off : Int) + j < p.startOf (m + 1)) :
    ∀ (fuel : Nat) (i : Int) (env : List α), env.length = n → i ≤ m →
      p.period * ((i + (fuel : Int) : Int) : Rat) - (off : Rat) > (n : Rat) →
      (squareLoop tbl p off n fuel i env)[j]? =
        if p.startOf m ≤ (off : Int) + j ∧ (off : Int) + j < p.startOf m + p.duty then
          tbl[((off : Int) + j - p.startOf m).toNat]?
        else env[j]? := by
  intro fuel
  induction fuel with
  | zero =>
    intro i env _ him hf
    rw [Nat.cast_zero, add_zero] at hf
    exact absurd hf (no_break_of_startOf_le p hp off n j hj m hm1 i him)
  | succ fuel ih =>
    intro i env h him hf
    have hlen := squareStep_length tbl p htbl off n env h i
    have hstep := squareStep_getElem? tbl p htbl off n env h i j hj
    simp only [squareLoop]
    by_cases hi : i = m
    · subst hi
      split
      · exact hstep
      · rw [squareLoop_later tbl p htbl hp off n j hj fuel (i + 1) _ hlen hm2, hstep]
    · have him' : i + 1 ≤ m := by omega
      rw [if_neg (no_break_of_startOf_le p hp off n j hj m hm1 (i + 1) him'),
        ih (i + 1) _ hlen him' (by rwa [Int.add_assoc, Int.add_comm 1, ← Int.natCast_succ])]
      -- where period `m` does not paint, the earlier period `i` has not painted either
      refine ite_congr rfl (fun _ => rfl) fun hc => ?_
      have := startOf_mono p hp him
      rw [hstep, if_neg (by omega)]

/-- The first period visited, `offset // fm_samples`, starts at or before `offset`. -/
theorem startOf_first_le (p : SqP) (hp : 0 < p.period) (off : Nat) :
    p.startOf (((off : Rat) / p.period).floor) ≤ (off : Int) := by
  have h1 : ((((off : Rat) / p.period).floor : Int) : Rat) ≤ (off : Rat) / p.period := Int.floor_le _
  rw [le_div_iff₀ hp] at h1
  unfold SqP.startOf
  have := rhe_mono (show p.period * ((((off : Rat) / p.period).floor : Int) : Rat) ≤ ((off : Int) : Rat) by
    push_cast; linarith)
  rw [rhe_intCast] at this
  exact this

/-- `squareFuel` passes from `offset // fm_samples` reach the break test. -/
theorem squareFuel_sufficient (p : SqP) (hp : 0 < p.period) (off n : Nat) :
    p.period * (((((off : Rat) / p.period).floor + (squareFuel p n : Int) : Int)) : Rat) - (off : Rat) > (n : Rat) := by
  have h1 : (off : Rat) / p.period < ((((off : Rat) / p.period).floor : Int) : Rat) + 1 := Int.lt_floor_add_one _
  have h2 : ((n : Rat) + 1) / p.period < ((((( n : Rat) + 1) / p.period).floor : Int) : Rat) + 1 :=
    Int.lt_floor_add_one _
  rw [div_lt_iff₀' hp] at h1 h2
  unfold squareFuel
  generalize ((off : Rat) / p.period).floor = a at h1
  generalize (((n : Rat) + 1) / p.period).floor = b at h2
  -- `toNat` can only add passes
  have hle : ((a + (b + 3) : Int) : Rat) ≤ ((a + ((b.toNat + 3 : Nat) : Int) : Int) : Rat) :=
    Int.cast_le.mpr (by omega)
  have h3 := mul_le_mul_of_nonneg_left hle hp.le
  rw [Int.cast_add, Int.cast_add, Int.cast_ofNat, mul_add, mul_add] at h3
  rw [mul_add, mul_one] at h1 h2
  linarith

/-- `square_wave(fs, offset, samples, depth, fm, duty_cycle, alpha)` (with fix 4) returns the
`[offset, offset+samples)` slice of `squareAt`: sample `k` is the Tukey-table entry `k − start` when
`k` lies in the first `duty_samples` samples of the period in progress at `k`, else `1 − depth`.
Every positive rational `fm_samples` (non-integer, `< 1`, exact `.5` ties) and every `duty_samples`
(longer than a period too: windows overlap and the later period wins, in the code and in `squareAt`).
`squareWave` follows the code's control flow: `offset // fm_samples`,
`int(np.round(fm_samples * i)) - offset`, both branches with their `np.clip`s, the `while True` loop.

Exact rational arithmetic on the exact value of the double `fs/fm`: where the IEEE results of
`fm_samples * i` or `offset // fm_samples` differ from the exact ones the harness sends the case to
the direct oracle only; float conformance of these two expressions is in the trusted base. -/
theorem square_fragment_eq_slice {α : Type} (tukey : Nat → α) (low : α) (p : SqP) (hp : 0 < p.period)
    (off n : Nat) : squareWave tukey low p off n = slice (squareAt tukey low p) off n := by
  have htbl : ((List.range p.duty).map tukey).length = p.duty := by
    rw [List.length_map, List.length_range]
  refine eq_slice (squareLoop_length _ p htbl off n _ _ _ List.length_replicate) fun j hj => ?_
  have hspec := periodAt_spec p hp (off + j)
  rw [Nat.cast_add] at hspec
  have hfirst := startOf_first_le p hp off
  have hi0 : ((off : Rat) / p.period).floor ≤ p.periodAt (off + j) := by
    have := lt_of_startOf_lt p (le_of_lt hp)
      (show p.startOf (((off : Rat) / p.period).floor) < p.startOf (p.periodAt (off + j) + 1) by omega)
    omega
  unfold squareWave
  simp only []
  rw [squareLoop_getElem? _ p htbl (le_of_lt hp) off n j hj (p.periodAt (off + j)) hspec.1 hspec.2
    (squareFuel p n) _ _ List.length_replicate hi0 (squareFuel_sufficient p hp off n)]
  unfold squareAt
  simp only [Nat.cast_add]
  by_cases hc : (off : Int) + j < p.startOf (p.periodAt (off + j)) + p.duty
  · rw [if_pos ⟨hspec.1, hc⟩, if_pos (by omega), List.getElem?_map, List.getElem?_range (by omega)]
    rfl
  · rw [if_neg (fun c => hc c.2), if_neg (by omega), List.getElem?_replicate, if_pos hj]

theorem squareLoop_extra_fuel (tbl : List α) (p : SqP) (off n : Nat) (extra : Nat) :
    ∀ (fuel : Nat) (i : Int) (env : List α), 1 ≤ fuel →
      p.period * ((i + (fuel : Int) : Int) : Rat) - (off : Rat) > (n : Rat) →
      squareLoop tbl p off n (fuel + extra) i env = squareLoop tbl p off n fuel i env := by
  intro fuel
  induction fuel with
  | zero => intro i env h; omega
  | succ fuel ih =>
    intro i env _ hf
    rw [show fuel + 1 + extra = (fuel + extra) + 1 by omega]
    simp only [squareLoop]
    split
    · rfl
    · rename_i hnb
      cases fuel with
      | zero =>
        exfalso; apply hnb
        simpa using hf
      | succ f =>
        apply ih _ _ (by omega)
        have : i + 1 + ((f + 1 : Nat) : Int) = i + ((f + 1 + 1 : Nat) : Int) := by push_cast; omega
        rw [this]; exact hf

/-- The guard `fm_samples > 0` is *not* written in `square_wave`; it is what makes the loop stop.
For a negative period the break test is false at every pass (`fm < 0` is rejected by
`scipy.signal.windows.tukey` only when `duty_cycle > 0`; with `duty_cycle ≤ 0` the real
`square_wave` does not return — observed, see notes/C01.md §5). -/
theorem square_wave_negative_period_never_breaks (p : SqP) (hp : p.period < 0) (off n t : Nat) (ht : 1 ≤ t) :
    ¬ (p.period * ((((off : Rat) / p.period).floor + (t : Int) : Int) : Rat) - (off : Rat) > (n : Rat)) := by
  have h1 : (off : Rat) / p.period < ((((off : Rat) / p.period).floor : Int) : Rat) + 1 := Int.lt_floor_add_one _
  rw [div_lt_iff_of_neg hp] at h1
  generalize ((off : Rat) / p.period).floor = a at h1
  have ht' : (1 : Rat) ≤ (t : Rat) := by exact_mod_cast ht
  have hn : (0 : Rat) ≤ (n : Rat) := Nat.cast_nonneg n
  have h2 : ((t : Rat) - 1) * p.period ≤ 0 := mul_nonpos_of_nonneg_of_nonpos (by linarith) hp.le
  push_cast
  intro hc
  linarith

end Psi.Stim

import PsiModel.EpochsExt
/-! Counting identities behind `epochs_contain` / `epochs_overlap`; the binary search on a sorted column. -/
namespace Psi.EpochsExt

/-- `|A| + |B \ A| = |B| + |A \ B|` -/
theorem countP_add_countP_diff {α} (p q : α → Bool) (l : List α) :
    l.countP p + l.countP (fun a => !p a && q a) = l.countP q + l.countP (fun a => p a && !q a) := by
  induction l with
  | nil => rfl
  | cons a l ih =>
    simp only [List.countP_cons]
    cases p a <;> cases q a <;> simp <;> omega

/-- `A = {p | p.1 < s}`, `B = {p | p.2 < t}` -/
theorem count_identity (e : List (Int × Int)) (s t : Int) :
    countLt (e.map (·.1)) s + e.countP (fun p => decide (s ≤ p.1) && decide (p.2 < t))
      = countLt (e.map (·.2)) t + e.countP (fun p => decide (p.1 < s) && decide (t ≤ p.2)) := by
  have := countP_add_countP_diff (fun p : Int × Int => decide (p.1 < s)) (fun p => decide (p.2 < t)) e
  simpa only [countLt, List.countP_map, Function.comp_def, ← decide_not, Int.not_lt] using this

/-- `epochs_overlap` compares two counts.  No hypothesis on the table. -/
theorem overlap1_iff_count (a : List (Int × Int)) (q : Int × Int) :
    overlap1 a q = true ↔
      a.countP (fun p => decide (p.1 < q.1) && decide (q.2 ≤ p.2))
        ≠ a.countP (fun p => decide (q.1 ≤ p.1) && decide (p.2 < q.2)) := by
  have := count_identity a q.1 q.2
  simp only [overlap1, bne_iff_ne, ne_eq]
  omega

theorem pairwise_mem_cases {α} {R : α → α → Prop} {l : List α} (h : l.Pairwise R) {a b : α}
    (ha : a ∈ l) (hb : b ∈ l) : a = b ∨ R a b ∨ R b a :=
  List.Pairwise.forall_of_forall_of_flip (R := fun a b => a = b ∨ R a b ∨ R b a)
    (fun _ _ => Or.inl rfl) (h.imp fun h => Or.inr (Or.inl h)) (h.imp fun h => Or.inr (Or.inr h))
    ha hb

theorem countLt_cons (a : Int) (l : List Int) (t : Int) :
    countLt (a :: l) t = countLt l t + if a < t then 1 else 0 := by
  simp only [countLt, List.countP_cons, decide_eq_true_eq]

theorem getElem_lt_iff_lt_countLt {l : List Int} (hs : l.Pairwise (· ≤ ·)) (t : Int) :
    ∀ (i : Nat) (h : i < l.length), l[i] < t ↔ i < countLt l t := by
  induction l with
  | nil => intro i h; cases h
  | cons a l ih =>
    obtain ⟨ha, hl⟩ := List.pairwise_cons.mp hs
    intro i h
    rw [countLt_cons]
    by_cases hat : a < t
    · rw [if_pos hat]
      cases i with
      | zero => simp [hat]
      | succ i => rw [List.getElem_cons_succ, ih hl i (Nat.lt_of_succ_lt_succ h)]; omega
    · have hz : countLt l t = 0 :=
        List.countP_eq_zero.mpr fun b hb => by have := ha b hb; simp; omega
      rw [if_neg hat, hz]
      cases i with
      | zero => simpa using hat
      | succ i =>
        have := ha _ (List.getElem_mem (Nat.lt_of_succ_lt_succ h))
        rw [List.getElem_cons_succ]; omega

theorem bisectGo_eq_countLt (l : List Int) (t : Int) (hs : l.Pairwise (· ≤ ·)) :
    ∀ (fuel lo hi : Nat), lo ≤ countLt l t → countLt l t ≤ hi → hi ≤ l.length → hi < lo + fuel →
      bisectGo l.toArray t fuel lo hi = countLt l t := by
  intro fuel
  induction fuel with
  | zero => intro lo hi _ _ _ h; omega
  | succ fuel ih =>
    intro lo hi h1 h2 h3 hf
    unfold bisectGo
    by_cases hlt : lo < hi
    · rw [if_pos hlt]
      have hm : lo ≤ lo + (hi - lo) / 2 ∧ lo + (hi - lo) / 2 < hi := by omega
      generalize lo + (hi - lo) / 2 = mid at hm ⊢
      have hmid : mid < l.length := Nat.lt_of_lt_of_le hm.2 h3
      have key := getElem_lt_iff_lt_countLt hs t mid hmid
      have hget : l.toArray[mid]? = some l[mid] := by
        rw [List.getElem?_toArray, List.getElem?_eq_getElem hmid]
      simp only [hget]
      by_cases hv : l[mid] < t
      · rw [if_pos hv]
        exact ih _ _ (key.mp hv) h2 h3 (by omega)
      · rw [if_neg hv]
        exact ih _ _ h1 (Nat.le_of_not_lt (mt key.mpr hv)) (Nat.le_of_lt hmid) (by omega)
    · rw [if_neg hlt]; omega

end Psi.EpochsExt

import PsiModel.Stim
import PsiProofs.Helper.C01_Gate
import PsiProofs.Helper.C01_Square
import PsiProofs.Helper.C01_SquareEnv
/-! Every finite nesting of factories (`Stim`) is additive, hence chunk-invariant. -/
set_option linter.dupNamespace false
namespace Psi.Stim
open Psi.Chunk

def SquareSliceLaw (p : SqP) : Prop :=
  ∀ id : Nat, ∃ f : Nat → Cell, ∀ off n,
    squareWave (Cell.a .tukey id) (Cell.c .low id) p off n = slice f off n

theorem squareSliceLaw_of_pos (p : SqP) (hp : 0 < p.period) : SquareSliceLaw p :=
  fun id => ⟨squareAt (Cell.a .tukey id) (Cell.c .low id) p,
    fun off n => square_fragment_eq_slice (Cell.a .tukey id) (Cell.c .low id) p hp off n⟩

/-- `WF` plus the square-wave fragment law at every `sqenv` node. -/
def Stim.WFs : Stim → Prop
  | .leaf _ _ => True
  | .sqwave _ cycle _ _ => 0 < cycle
  | .fixed _ _ => True
  | .gate _ _ _ inner => inner.WFs
  | .env _ p _ inner => p.riseN * 2 ≤ p.dur ∧ inner.WFs
  | .sam _ _ _ inner => inner.WFs
  | .sqenv _ p _ inner => SquareSliceLaw p ∧ inner.WFs
  | .filt _ _ _ inner => inner.WFs

theorem Stim.WF.wfs {g : Stim} (h : g.WF) : g.WFs := by
  induction g with
  | leaf => trivial
  | sqwave => exact h
  | fixed => trivial
  | gate _ _ _ inner ih => exact ih h
  | env _ _ _ inner ih => exact ⟨h.1, ih h.2⟩
  | sam _ _ _ inner ih => exact ih h
  | sqenv _ p _ inner ih => exact ⟨squareSliceLaw_of_pos p h.1, ih h.2⟩
  | filt _ _ _ inner ih => exact ih h

theorem filtRun_eq_applyAt (id j : Nat) (l : List Cell) :
    filtRun id j l = applyAt (fun k x => Cell.f id k x) j l := by
  induction l generalizing j with
  | nil => rfl
  | cons x xs ih => simp [filtRun, applyAt, ih]

theorem next_env (id : Nat) (p : EnvP) (off : Nat) (inner : Stim) (n : Nat) (h : p.riseN * 2 ≤ p.dur)
    (hl : (inner.next n).1.length = n) :
    (Stim.env id p off inner).next n
      = (applyAt (fun k x => Cell.mul (envAt (Cell.a .ramp id) p.start p.dur p.riseN k) x) off (inner.next n).1,
          .env id p (off + n) (inner.next n).2) := by
  simp only [Stim.next]
  rw [envelope_fragment_eq_slice _ p h]
  exact congrArg (·, _) (zipWith_slice_eq_applyAt _ _ _ _ hl)

theorem Stim.next_length (g : Stim) (h : g.WFs) (n : Nat) : (g.next n).1.length = n := by
  induction g generalizing n with
  | leaf id off => exact slice_length _ off n
  | sqwave id cycle on off => simp only [Stim.next, squarewave_fragment_eq_slice cycle on h, slice_length]
  | fixed w off => simp only [Stim.next, fixed_fragment_eq_slice, slice_length]
  | gate start dur off inner ih => simp only [Stim.next, gate_fragment_eq_slice, applyAt_length, ih h]
  | env id p off inner ih => rw [next_env _ _ _ _ _ h.1 (ih h.2 n), applyAt_length, ih h.2]
  | sam id delay off inner ih =>
    simp only [Stim.next]
    rw [sam_fragment_eq_slice, zipWith_slice_eq_applyAt _ _ _ _ rfl, applyAt_length, ih h]
  | sqenv id p off inner ih =>
    obtain ⟨f, hf⟩ := h.1 id
    simp only [Stim.next]
    rw [hf, zipWith_slice_eq_applyAt _ _ _ _ rfl, applyAt_length, ih h.2]
  | filt id j off inner ih => simp only [Stim.next, filtRun_eq_applyAt, applyAt_length, ih h]

theorem Stim.next_wfs (g : Stim) (h : g.WFs) (n : Nat) : (g.next n).2.WFs := by
  induction g generalizing n with
  | leaf id off => trivial
  | sqwave id cycle on off => exact h
  | fixed w off => trivial
  | gate start dur off inner ih => exact ih h n
  | env id p off inner ih =>
    rw [next_env _ _ _ _ _ h.1 (Stim.next_length inner h.2 n)]
    exact ⟨h.1, ih h.2 n⟩
  | sam id delay off inner ih => exact ih h n
  | sqenv id p off inner ih => exact ⟨h.1, ih h.2 n⟩
  | filt id j off inner ih => exact ih h n

theorem Stim.next_add (g : Stim) (h : g.WFs) (m n : Nat) :
    g.next (m + n) = ((g.next m).1 ++ ((g.next m).2.next n).1, ((g.next m).2.next n).2) := by
  induction g generalizing m n with
  | leaf id off => simp only [Stim.next, slice_add, Nat.add_assoc]
  | sqwave id cycle on off => simp only [Stim.next, squarewave_fragment_eq_slice cycle on h, slice_add, Nat.add_assoc]
  | fixed w off => simp only [Stim.next, fixed_fragment_eq_slice, slice_add, Nat.add_assoc]
  | gate start dur off inner ih =>
    simp only [Stim.next, gate_fragment_eq_slice, ih h, applyAt_append, Stim.next_length inner h m, Nat.add_assoc]
  | env id p off inner ih =>
    have l1 := Stim.next_length inner h.2 m
    rw [next_env _ _ _ _ _ h.1 (Stim.next_length inner h.2 (m + n)), next_env _ _ _ _ _ h.1 l1,
      next_env _ _ _ _ _ h.1 (Stim.next_length _ (Stim.next_wfs inner h.2 m) n), ih h.2]
    simp only [applyAt_append, l1, Nat.add_assoc]
  | sam id delay off inner ih =>
    simp only [Stim.next, sam_fragment_eq_slice]
    rw [zipWith_slice_eq_applyAt _ _ _ _ rfl, zipWith_slice_eq_applyAt _ _ _ _ rfl,
      zipWith_slice_eq_applyAt _ _ _ _ rfl, ih h]
    simp only [applyAt_append, List.length_append, Stim.next_length inner h m, Nat.add_assoc]
  | sqenv id p off inner ih =>
    obtain ⟨f, hf⟩ := h.1 id
    simp only [Stim.next, hf]
    rw [zipWith_slice_eq_applyAt _ _ _ _ rfl, zipWith_slice_eq_applyAt _ _ _ _ rfl,
      zipWith_slice_eq_applyAt _ _ _ _ rfl, ih h.2]
    simp only [applyAt_append, List.length_append, Stim.next_length inner h.2 m, Nat.add_assoc]
  | filt id j off inner ih =>
    simp only [Stim.next, filtRun_eq_applyAt, ih h, applyAt_append, List.length_append,
      Stim.next_length inner h m, Nat.add_assoc]

theorem stim_drawAll (g : Stim) (h : g.WFs) (ns : List Nat) :
    drawAll stimGen g ns = (g.next ns.sum).1 := by
  induction ns generalizing g with
  | nil => exact (List.eq_nil_of_length_eq_zero (Stim.next_length g h 0)).symm
  | cons n ns ih =>
    rw [List.sum_cons, Stim.next_add g h]
    exact congrArg _ (ih _ (Stim.next_wfs g h n))

theorem Stim.next_zero (g : Stim) (h : g.WFs) : (g.next 0).2 = g := by
  induction g with
  | leaf id off => rfl
  | sqwave id cycle on off => rfl
  | fixed w off => rfl
  | gate start dur off inner ih => simp only [Stim.next, ih h, Nat.add_zero]
  | env id p off inner ih =>
    rw [next_env _ _ _ _ _ h.1 (Stim.next_length inner h.2 0), ih h.2]
    rfl
  | sam id delay off inner ih => simp only [Stim.next, Stim.next_length inner h 0, ih h, Nat.add_zero]
  | sqenv id p off inner ih => simp only [Stim.next, Stim.next_length inner h.2 0, ih h.2, Nat.add_zero]
  | filt id j off inner ih => simp only [Stim.next, Stim.next_length inner h 0, ih h, Nat.add_zero]

theorem stim_stateAfter_eq (g : Stim) (h : g.WFs) (ns : List Nat) :
    stateAfter stimGen g ns = (g.next ns.sum).2 := by
  induction ns generalizing g with
  | nil => exact (Stim.next_zero g h).symm
  | cons n ns ih =>
    rw [List.sum_cons, Stim.next_add g h]
    exact ih _ (Stim.next_wfs g h n)

theorem stim_stateAfter (g : Stim) (h : g.WFs) (ns : List Nat) (hns : ns ≠ []) :
    stateAfter stimGen g ns = (g.next ns.sum).2 :=
  stim_stateAfter_eq g h ns

end Psi.Stim

import PsiProofs.Helper.C16_Kernel
/-!
What the spectrum helpers of `psiaudio.util` (`csd`, `psd`, `tone_conv`, `rms`, `csd_to_signal`) compute, proved
about the model `PsiModel/DbField.lean` at `α := ℝ`; `psd` of a tone for any averaging count and any number of trimmed
trailing samples.
-/
open Finset

namespace Psi.Db

/-- The tone is `e^{ip} χ_k + e^{-ip} χ_{-k}` up to a factor, and each character sums to `n` or `0` against the
kernel `χ_{-m}`. -/
theorem toC_dftBin_tone (n k m : ℕ) (hn : 0 < n) (A p : ℝ) :
    toC (dftBin n (toneSig n k A p) m)
      = ((Real.sqrt 2 * A / 2 : ℝ) : ℂ) *
        (Complex.exp (p * Complex.I) * (if (n : ℤ) ∣ -(m : ℤ) + k then (n : ℂ) else 0)
          + Complex.exp (-(p * Complex.I)) * (if (n : ℤ) ∣ -(m : ℤ) - k then (n : ℂ) else 0)) := by
  rw [toC_dftBin, ← C16.sum_chi n hn, ← C16.sum_chi n hn, Finset.mul_sum, Finset.mul_sum,
    ← Finset.sum_add_distrib, Finset.mul_sum]
  refine Finset.sum_congr rfl fun j _ => ?_
  rw [toneSig_eq, ← Int.cast_natCast (R := ℝ) k, Complex.ofReal_mul, mul_assoc, C16.cos_mul_chi]
  push_cast
  ring

theorem not_dvd_neg_sub (n k m : ℕ) (hk : 0 < k) (hkn : 2 * k < n) (hm : 2 * m ≤ n) :
    ¬ (n : ℤ) ∣ -(m : ℤ) - k := by
  rw [← neg_add', ← Nat.cast_add, Int.dvd_neg, Int.natCast_dvd_natCast]
  exact Nat.not_dvd_of_pos_of_lt (by omega) (by omega)

theorem not_dvd_neg_add (n k m : ℕ) (hkn : 2 * k < n) (hm : 2 * m ≤ n) (hmk : m ≠ k) :
    ¬ (n : ℤ) ∣ -(m : ℤ) + k := by
  rw [neg_add_eq_sub]
  exact C16.not_dvd_sub_of_lt (by omega) (by omega) hmk.symm

theorem tone_bin_of_window {M k n : ℕ} (hk : M < k) (hkn : 2 * (k + M) < n) : 0 < k ∧ 2 * k < n :=
  ⟨Nat.zero_lt_of_lt hk, (Nat.mul_le_mul_left 2 (Nat.le_add_right k M)).trans_lt hkn⟩

theorem toC_dftBin_tone_bin (n k : ℕ) (A p : ℝ) (hk : 0 < k) (hkn : 2 * k < n) :
    toC (dftBin n (toneSig n k A p) k)
      = ((Real.sqrt 2 * A / 2 * n : ℝ) : ℂ) * Complex.exp (p * Complex.I) := by
  rw [toC_dftBin_tone n k k (Nat.zero_lt_of_lt hkn), if_neg (not_dvd_neg_sub n k k hk hkn hkn.le), neg_add_cancel,
    if_pos (dvd_zero _), mul_zero, add_zero, Complex.ofReal_mul, Complex.ofReal_natCast]
  ring

theorem toC_dftBin_tone_other (n k m : ℕ) (A p : ℝ) (hk : 0 < k) (hkn : 2 * k < n)
    (hm : 2 * m ≤ n) (hmk : m ≠ k) : toC (dftBin n (toneSig n k A p) m) = 0 := by
  rw [toC_dftBin_tone n k m (Nat.zero_lt_of_lt hkn), if_neg (not_dvd_neg_sub n k m hk hkn hm),
    if_neg (not_dvd_neg_add n k m hkn hm hmk), mul_zero, mul_zero, add_zero, mul_zero]

theorem toneConv_scale_tone (n A : ℝ) (hn : n ≠ 0) : 2 / n * (Real.sqrt 2 * A / 2 * n) = Real.sqrt 2 * A := by
  field_simp

theorem csd_scale_tone (n A : ℝ) (hn : n ≠ 0) : 2 / n / Real.sqrt 2 * (Real.sqrt 2 * A / 2 * n) = A := by
  rw [div_mul_eq_mul_div, toneConv_scale_tone n A hn, mul_div_cancel_left₀ _ sqrt_two_ne_zero]

theorem toC_csd_tone (n k : ℕ) (A p : ℝ) (hk : 0 < k) (hkn : 2 * k < n) :
    toC (csd n (toneSig n k A p) k) = (A : ℂ) * Complex.exp (p * Complex.I) := by
  rw [toC_csd, toC_dftBin_tone_bin n k A p hk hkn, ← mul_assoc, ← Complex.ofReal_mul,
    csd_scale_tone n A (cast_ne_zero (Nat.zero_lt_of_lt hkn))]

theorem csd_tone_bin (n k : ℕ) (A p : ℝ) (hk : 0 < k) (hkn : 2 * k < n) :
    (csd n (toneSig n k A p) k).re = A * Real.cos p
    ∧ (csd n (toneSig n k A p) k).im = A * Real.sin p :=
  re_im_of_toC_polar (toC_csd_tone n k A p hk hkn)

example : (csd 8 (toneSig 8 1 (3 : ℝ) (1/2)) 1).re = 3 * Real.cos (1/2)
    ∧ (csd 8 (toneSig 8 1 (3 : ℝ) (1/2)) 1).im = 3 * Real.sin (1/2) :=
  csd_tone_bin 8 1 3 (1/2) (by norm_num) (by norm_num)

theorem csd_tone_other (n k m : ℕ) (A p : ℝ) (hk : 0 < k) (hkn : 2 * k < n)
    (hm : 2 * m ≤ n) (hmk : m ≠ k) :
    (csd n (toneSig n k A p) m).re = 0 ∧ (csd n (toneSig n k A p) m).im = 0 := by
  apply re_im_of_toC_zero
  rw [toC_csd, toC_dftBin_tone_other n k m A p hk hkn hm hmk, mul_zero]

example : (csd 8 (toneSig 8 1 (3 : ℝ) (1/2)) 4).re = 0 ∧ (csd 8 (toneSig 8 1 (3 : ℝ) (1/2)) 4).im = 0 :=
  csd_tone_other 8 1 4 3 (1/2) (by norm_num) (by norm_num) (by norm_num) (by norm_num)

example : (csd 8 (toneSig 8 1 (3 : ℝ) (1/2)) 0).re = 0 ∧ (csd 8 (toneSig 8 1 (3 : ℝ) (1/2)) 0).im = 0 :=
  csd_tone_other 8 1 0 3 (1/2) (by norm_num) (by norm_num) (by norm_num) (by norm_num)

theorem tone_sq_term (n k j : ℕ) (A p : ℝ) :
    toneSig n k A p j * toneSig n k A p j
      = A ^ 2 + A ^ 2 * Real.cos (2 * Real.pi * (((2 * k : ℕ) : ℤ) : ℝ) * j / n + 2 * p) := by
  have e1 : 2 * Real.pi * (((2 * k : ℕ) : ℤ) : ℝ) * j / n + 2 * p
      = 2 * (2 * Real.pi * k * j / n + p) := by
    rw [Int.cast_natCast, Nat.cast_mul, Nat.cast_ofNat]; ring
  rw [toneSig_eq, e1]
  generalize 2 * Real.pi * k * j / n + p = x
  rw [Real.cos_two_mul]
  linear_combination (A ^ 2 * Real.cos x ^ 2) * sqrt_two_mul_self

theorem tone_mean_square (n k : ℕ) (A p : ℝ) (hk : 0 < k) (hkn : 2 * k < n) :
    meanTo n (fun j => toneSig n k A p j * toneSig n k A p j) = A ^ 2 := by
  have hn : 0 < n := Nat.zero_lt_of_lt hkn
  rw [meanTo_eq]
  simp_rw [tone_sq_term]
  rw [Finset.sum_add_distrib, ← Finset.mul_sum,
    C16.sum_cos_shift_of_not_dvd n hn _ _
      (mt Int.natCast_dvd_natCast.1 (Nat.not_dvd_of_pos_of_lt (Nat.mul_pos two_pos hk) hkn)),
    Finset.sum_const, Finset.card_range, nsmul_eq_mul, mul_zero, add_zero,
    mul_div_cancel_left₀ _ (cast_ne_zero hn)]

example : meanTo 8 (fun j => toneSig 8 1 (3 : ℝ) (1/2) j * toneSig 8 1 (3 : ℝ) (1/2) j)
    = (3 : ℝ) ^ 2 :=
  tone_mean_square 8 1 3 (1/2) (by norm_num) (by norm_num)

theorem tone_rms (n k : ℕ) (A p : ℝ) (hk : 0 < k) (hkn : 2 * k < n) :
    rms n (toneSig n k A p) = |A| := by
  rw [rms, tone_mean_square n k A p hk hkn, sqrt_real, Real.sqrt_sq_eq_abs]

example : rms 8 (toneSig 8 1 (-3 : ℝ) (1/2)) = |(-3 : ℝ)| :=
  tone_rms 8 1 (-3) (1/2) (by norm_num) (by norm_num)

theorem toneConv_angle (n k j : ℕ) (fs : ℝ) (hfs : fs ≠ 0) :
    2 * Real.pi * ((j : ℝ) / fs) * ((k : ℝ) * fs / n) = 2 * Real.pi * k * j / n := by
  rw [show 2 * Real.pi * ((j : ℝ) / fs) * ((k : ℝ) * fs / n) = 2 * Real.pi * k * j / n * (fs / fs) by ring,
    div_self hfs, mul_one]

/-- `tone_conv` at `f = k·fs/n` is `2/n` times DFT bin `k` -/
theorem toC_toneConv (n k : ℕ) (s : ℕ → ℝ) (fs : ℝ) (hfs : fs ≠ 0) :
    toC (toneConv n s fs (k * fs / n)) = ((2 / n : ℝ) : ℂ) * toC (dftBin n s k) := by
  rw [toneConv, toC_div_nat, toC_csumTo, toC_dftBin, Finset.mul_sum, Finset.sum_div]
  refine Finset.sum_congr rfl fun j _ => ?_
  rw [toC_smul, nat_real, nat_real, pi_real, Nat.cast_ofNat, toneConv_angle n k j fs hfs, toC_cis_neg]
  push_cast
  ring

theorem toC_toneConv_tone (n k : ℕ) (A p fs : ℝ) (hfs : fs ≠ 0) (hk : 0 < k) (hkn : 2 * k < n) :
    toC (toneConv n (toneSig n k A p) fs (k * fs / n))
      = ((Real.sqrt 2 * A : ℝ) : ℂ) * Complex.exp (p * Complex.I) := by
  rw [toC_toneConv n k _ fs hfs, toC_dftBin_tone_bin n k A p hk hkn, ← mul_assoc,
    ← Complex.ofReal_mul, toneConv_scale_tone n A (cast_ne_zero (Nat.zero_lt_of_lt hkn))]

theorem toneConv_whole_cycles (n k : ℕ) (A p fs : ℝ) (hfs : fs ≠ 0) (hk : 0 < k)
    (hkn : 2 * k < n) :
    (toneConv n (toneSig n k A p) fs (k * fs / n)).re = Real.sqrt 2 * A * Real.cos p
    ∧ (toneConv n (toneSig n k A p) fs (k * fs / n)).im = Real.sqrt 2 * A * Real.sin p :=
  re_im_of_toC_polar (toC_toneConv_tone n k A p fs hfs hk hkn)

example : (toneConv 8 (toneSig 8 1 (3 : ℝ) (1/2)) 100000 ((1 : ℕ) * 100000 / (8 : ℕ))).re
      = Real.sqrt 2 * 3 * Real.cos (1/2)
    ∧ (toneConv 8 (toneSig 8 1 (3 : ℝ) (1/2)) 100000 ((1 : ℕ) * 100000 / (8 : ℕ))).im
      = Real.sqrt 2 * 3 * Real.sin (1/2) :=
  toneConv_whole_cycles 8 1 3 (1/2) 100000 (by norm_num) (by norm_num) (by norm_num)

theorem tonePower_whole_cycles (n k : ℕ) (A p fs : ℝ) (hfs : fs ≠ 0) (hk : 0 < k)
    (hkn : 2 * k < n) :
    tonePower n (toneSig n k A p) fs (k * fs / n) = |A| := by
  obtain ⟨hre, him⟩ := toneConv_whole_cycles n k A p fs hfs hk hkn
  rw [tonePower, Cx.abs_polar _ _ p hre him, abs_mul, abs_of_pos sqrt_two_pos, sqrt_real, nat_real,
    Nat.cast_ofNat, mul_div_cancel_left₀ _ sqrt_two_ne_zero]

example : tonePower 8 (toneSig 8 1 (-3 : ℝ) (1/2)) 100000 ((1 : ℕ) * 100000 / (8 : ℕ))
    = |(-3 : ℝ)| :=
  tonePower_whole_cycles 8 1 (-3) (1/2) 100000 (by norm_num) (by norm_num) (by norm_num)

theorem tonePhase_whole_cycles (n k : ℕ) (A p fs : ℝ) (hfs : fs ≠ 0) (hk : 0 < k)
    (hkn : 2 * k < n) (hA : 0 < A) (hp : -Real.pi < p ∧ p ≤ Real.pi) :
    tonePhase n (toneSig n k A p) fs (k * fs / n) = p := by
  -- `tonePhase` is `atan2 im re`, which at `ℝ` is by definition `Complex.arg ⟨re, im⟩`
  show Complex.arg (toC _) = p
  rw [toC_toneConv_tone n k A p fs hfs hk hkn, Complex.exp_mul_I,
    Complex.arg_mul_cos_add_sin_mul_I (mul_pos sqrt_two_pos hA) ⟨hp.1, hp.2⟩]

example : tonePhase 8 (toneSig 8 1 (3 : ℝ) (1/2)) 100000 ((1 : ℕ) * 100000 / (8 : ℕ)) = 1/2 :=
  tonePhase_whole_cycles 8 1 3 (1/2) 100000 (by norm_num) (by norm_num) (by norm_num)
    (by norm_num) ⟨(neg_lt_zero.2 Real.pi_pos).trans (by norm_num), le_trans (by norm_num) Real.two_le_pi⟩

theorem csd_div_scale (n : ℕ) (hn : 0 < n) (s : ℕ → ℝ) (k : ℕ) :
    (csd n s k).re / csdScale n = (dftBin n s k).re ∧ (csd n s k).im / csdScale n = (dftBin n s k).im := by
  rw [csd, Cx.smul]
  exact ⟨mul_div_cancel_left₀ _ (csdScale_ne_zero n hn), mul_div_cancel_left₀ _ (csdScale_ne_zero n hn)⟩

theorem sin_nyquist (m j : ℕ) :
    Real.sin (2 * Real.pi * ((m + 1 : ℕ) : ℝ) * j / (2 * (m + 1) : ℕ)) = 0 := by
  have h1 : ((m + 1 : ℕ) : ℝ) ≠ 0 := Nat.cast_ne_zero.2 m.succ_ne_zero
  rw [Nat.cast_mul, Nat.cast_ofNat, show 2 * Real.pi * ((m + 1 : ℕ) : ℝ) * j / (2 * ((m + 1 : ℕ) : ℝ))
    = (j : ℝ) * Real.pi * (((m + 1 : ℕ) : ℝ) / ((m + 1 : ℕ) : ℝ)) by ring, div_self h1, mul_one,
    Real.sin_nat_mul_pi]

/-- The inverse DFT over all `n = 2m` bins recovers the signal (`idft_sum`), and by conjugate symmetry its terms
fold onto the bins `0 … m` that `irfft` is given. -/
theorem csd_roundtrip (m : ℕ) (hm : 0 < m) (s : ℕ → ℝ) (j : ℕ) (hj : j < 2 * m) :
    csdToSignal m (fun k => csd (2 * m) s k) j = s j := by
  obtain ⟨m', rfl⟩ : ∃ m', m = m' + 1 := ⟨m - 1, by omega⟩
  have hn : 0 < 2 * (m' + 1) := by omega
  have key := sum_fold_even m'
    (fun i => (dftBin (2 * (m' + 1)) s i).re * Real.cos (2 * Real.pi * i * j / (2 * (m' + 1) : ℕ))
      - (dftBin (2 * (m' + 1)) s i).im * Real.sin (2 * Real.pi * i * j / (2 * (m' + 1) : ℕ)))
    (fun i _ hi => idft_term_reflect _ s i j hn hi.le)
  rw [idft_sum _ s j hj, Finset.sum_range_succ, Finset.sum_range_succ'] at key
  simp only [sin_nyquist m' j, Nat.cast_zero, mul_zero, zero_mul, zero_div, Real.cos_zero,
    Real.sin_zero, mul_one, sub_zero] at key
  unfold csdToSignal
  simp only [csd_div_scale _ hn, sumTo_eq, ang_eq, cos_real, sin_real,
    nat_real, Nat.cast_ofNat, Nat.add_sub_cancel]
  rw [div_eq_iff (cast_ne_zero hn)]
  linear_combination -key

example (s : ℕ → ℝ) : csdToSignal 4 (fun k => csd (2 * 4) s k) 5 = s 5 :=
  csd_roundtrip 4 (by norm_num) s 5 (by norm_num)

theorem csdScale_sq (n : ℝ) (hn : n ≠ 0) : 2 / n / Real.sqrt 2 * (2 / n / Real.sqrt 2) = 2 / n ^ 2 := by
  have h2 := sqrt_two_ne_zero
  rw [div_mul_div_comm, sqrt_two_mul_self]
  field_simp

theorem csd_normSq (n : ℕ) (hn : 0 < n) (s : ℕ → ℝ) (k : ℕ) :
    (csd n s k).normSq = 2 / (n : ℝ) ^ 2 * (dftBin n s k).normSq := by
  rw [csd, Cx.normSq_smul, csdScale_eq, csdScale_sq n (cast_ne_zero hn)]

theorem parseval_onesided (n : ℕ) (hn : 0 < n) (s : ℕ → ℝ) :
    sumTo (n / 2 + 1) (fun k => (csd n s k).normSq)
      = meanTo n (fun j => s j * s j) + (1 / 2) * (csd n s 0).normSq
        + (if n % 2 = 0 then (1 / 2) * (csd n s (n / 2)).normSq else 0) := by
  have hn' := cast_ne_zero hn
  -- full Parseval, folded onto bins `0 … n/2` by conjugate symmetry
  have F := sum_fold n hn (fun k => (dftBin n s k).normSq)
    fun i _ hi => dftBin_normSq_reflect n s i hn hi.le
  rw [parseval_full n s] at F
  have E : (if n % 2 = 0 then (1 / 2) * (csd n s (n / 2)).normSq else 0)
      = 1 / (n : ℝ) ^ 2 * (if n % 2 = 0 then (dftBin n s (n / 2)).normSq else 0) := by
    split_ifs
    · rw [csd_normSq n hn]; ring
    · rw [mul_zero]
  rw [sumTo_eq, meanTo_eq, E]
  simp_rw [csd_normSq n hn]
  rw [← Finset.mul_sum]
  have h1 : (n : ℝ) / (n : ℝ) ^ 2 = 1 / n := by rw [pow_two, div_mul_cancel_left₀ hn', one_div]
  linear_combination (-(1 / (n : ℝ) ^ 2)) * F + (∑ j ∈ range n, s j * s j) * h1

example (s : ℕ → ℝ) : sumTo (8 / 2 + 1) (fun k => (csd 8 s k).normSq)
      = meanTo 8 (fun j => s j * s j) + (1 / 2) * (csd 8 s 0).normSq
        + (if 8 % 2 = 0 then (1 / 2) * (csd 8 s (8 / 2)).normSq else 0) :=
  parseval_onesided 8 (by norm_num) s

example (s : ℕ → ℝ) : sumTo (7 / 2 + 1) (fun k => (csd 7 s k).normSq)
      = meanTo 7 (fun j => s j * s j) + (1 / 2) * (csd 7 s 0).normSq
        + (if 7 % 2 = 0 then (1 / 2) * (csd 7 s (7 / 2)).normSq else 0) :=
  parseval_onesided 7 (by norm_num) s

theorem csd_tone_abs (n k : ℕ) (A p : ℝ) (hk : 0 < k) (hkn : 2 * k < n) :
    (csd n (toneSig n k A p) k).abs = |A| :=
  Cx.abs_polar _ A p (csd_tone_bin n k A p hk hkn).1 (csd_tone_bin n k A p hk hkn).2

theorem trimLen_div (n avg e : ℕ) (he : e < avg) : trimLen (avg * n + e) avg / avg = n := by
  have havg : 0 < avg := Nat.zero_lt_of_lt he
  have h1 : (avg * n + e) / avg = n := by
    rw [Nat.mul_add_div havg, Nat.div_eq_of_lt he, Nat.add_zero]
  rw [trimLen, h1, Nat.mul_div_cancel n havg]

theorem psd_rows (n avg e : ℕ) (he : e < avg) (s : ℕ → ℝ) (k : ℕ) :
    psd (avg * n + e) avg s k = meanTo avg fun r => (csd n (fun j => s (r * n + j)) k).abs := by
  unfold psd
  simp only [trimLen_div n avg e he]

theorem psdW_rows (n avg e : ℕ) (he : e < avg) (w s : ℕ → ℝ) (k : ℕ) :
    psdW (avg * n + e) avg w s k = meanTo avg fun r => (csdW n w (fun j => s (r * n + j)) k).abs := by
  unfold psdW
  simp only [trimLen_div n avg e he]

theorem psd_tone_trim (n k avg e : ℕ) (A p : ℝ) (he : e < avg) (hk : 0 < k) (hkn : 2 * k < n) (s : ℕ → ℝ)
    (hs : ∀ r j, r < avg → j < n → s (r * n + j) = toneSig n k A p j) :
    psd (avg * n + e) avg s k = |A| := by
  rw [psd_rows n avg e he]
  refine meanTo_eq_of_forall avg (Nat.zero_lt_of_lt he) _ _ fun r hr => ?_
  rw [csd_congr n _ (toneSig n k A p) k (hs r · hr)]
  exact csd_tone_abs n k A p hk hkn

theorem psd_tone_averages (n k avg : ℕ) (A p : ℝ) (havg : 0 < avg) (hk : 0 < k)
    (hkn : 2 * k < n) (s : ℕ → ℝ)
    (hs : ∀ r j, r < avg → j < n → s (r * n + j) = toneSig n k A p j) :
    psd (avg * n) avg s k = |A| :=
  psd_tone_trim n k avg 0 A p havg hk hkn s hs

example : psd (4 * 8) 4 (fun i => toneSig 8 1 (3 : ℝ) (1/2) (i % 8)) 1 = |(3 : ℝ)| :=
  psd_tone_averages 8 1 4 3 (1/2) (by norm_num) (by norm_num) (by norm_num) _
    (fun r j _ hj => by
      show toneSig 8 1 (3 : ℝ) (1/2) ((r * 8 + j) % 8) = _
      rw [Nat.mul_add_mod_of_lt hj])

end Psi.Db

import PsiProofs.Helper.C08_Filter
/-!
`lfilter` over ℝ, the numerator side:

* `lfilter` is linear in the numerator: `BandlimitedFIRNoiseFactory` puts the level into the taps
  (`firwin2(gain=sf)`), not into the noise bounds;
* an FIR filter (`a = [1]`, i.e. every entry of `atl` is `0`) flushes its initial state after as many samples as
  the state is long: `ShapedNoiseFactory` and `BandlimitedFIRNoiseFactory` start from `lfilter_zi(taps)`, which
  does not scale with the level, and discard exactly `len(zi) = ntaps - 1` samples.
-/
namespace Psi.Db

theorem zipStep_gain_b (c x y : ℝ) (zs bs as : List ℝ) :
    zipStep x y zs (bs.map (c * ·)) as = zipStep (c * x) y zs bs as := by
  rw [zipStep_eq_zipWith, zipStep_eq_zipWith, List.zip_map_left, List.zipWith_map_right]
  congr 1
  funext z p
  simp only [Prod.map_fst, Prod.map_snd, id]
  ring

theorem lfilterStep_gain_b (c b0 : ℝ) (bt atl z : List ℝ) (x : ℝ) :
    lfilterStep (c * b0) (bt.map (c * ·)) atl z x = lfilterStep b0 bt atl z (c * x) := by
  have hs : stateHead z x = stateHead z (c * x) := by
    cases z with
    | nil => simp only [stateHead, nat_real, Nat.cast_zero, zero_mul]
    | cons z0 zt => rfl
  rw [lfilterStep_eq, lfilterStep_eq, zipStep_gain_b, hs, mul_assoc, mul_left_comm]

theorem lfilter_gain_b (c b0 : ℝ) (bt atl : List ℝ) (z xs : List ℝ) :
    lfilter (c * b0) (bt.map (c * ·)) atl z xs = lfilter b0 bt atl z (xs.map (c * ·)) := by
  induction xs generalizing z with
  | nil => rfl
  | cons x xs ih => simp only [lfilter, lfilterStep_gain_b, ih, List.map_cons]

theorem lfilter_scale_b (c b0 : ℝ) (bt atl : List ℝ) (z xs : List ℝ) :
    lfilter (c * b0) (bt.map (c * ·)) atl (z.map (c * ·)) xs =
      ((lfilter b0 bt atl z xs).1.map (c * ·), (lfilter b0 bt atl z xs).2.map (c * ·)) := by
  rw [lfilter_gain_b, lfilter_hom (scaleHom c)]

/-- without feedback the state update does not look at the output sample -/
theorem zipStep_fir_indep (x y y' : ℝ) (zs bs as : List ℝ) (ha : ∀ a ∈ as, a = 0) :
    zipStep x y zs bs as = zipStep x y' zs bs as := by
  induction zs generalizing bs as with
  | nil => rfl
  | cons z zs ih =>
    cases bs with
    | nil => rfl
    | cons b bs =>
      cases as with
      | nil => rfl
      | cons a as =>
        have h0 : a = 0 := ha a List.mem_cons_self
        simp only [zipStep, ih bs as (fun a' h => ha a' (List.mem_cons_of_mem _ h)), h0, zero_mul]

theorem shiftState_drop (z : List ℝ) (i : ℕ) (h : i + 1 ≤ z.length) :
    (shiftState z).drop i = z.drop (i + 1) ++ [0] := by
  rw [shiftState, List.drop_append_of_le_length (by rw [List.length_drop]; exact Nat.le_sub_of_add_le h), List.drop_drop, Nat.add_comm 1 i,
    nat_real, Nat.cast_zero]

/-- One step shifts the state: its entries from `i` on depend only on the old entries from `i + 1` on. -/
theorem lfilterStep_drop_fir (b0 : ℝ) (bt atl : List ℝ) (ha : ∀ a ∈ atl, a = 0) (z : List ℝ) (x : ℝ) (i : ℕ)
    (hi : i + 1 ≤ z.length) :
    (lfilterStep b0 bt atl z x).2.drop i = zipStep x 0 (z.drop (i + 1) ++ [0]) (bt.drop i) (atl.drop i) := by
  rw [lfilterStep_eq, zipStep_drop, shiftState_drop z i hi]
  exact zipStep_fir_indep _ _ _ _ _ _ fun a h => ha a (List.mem_of_mem_drop h)

theorem lfilterStep_length_eq (b0 : ℝ) (bt atl z : List ℝ) (x : ℝ) (hb : bt.length = z.length)
    (hal : atl.length = z.length) : (lfilterStep b0 bt atl z x).2.length = z.length := by
  rw [lfilterStep_length, hb, hal, Nat.min_self]
  exact Nat.min_eq_right (Nat.le_add_of_sub_le le_rfl)

theorem lfilter_fir_flush_aux (b0 : ℝ) (bt atl : List ℝ) (ha : ∀ a ∈ atl, a = 0) (x z z' : List ℝ) (i : ℕ)
    (hb : bt.length = z.length) (hal : atl.length = z.length) (hlen : z'.length = z.length)
    (hi : i ≤ z.length) (h : z.drop i = z'.drop i) :
    (lfilter b0 bt atl z x).1.drop i = (lfilter b0 bt atl z' x).1.drop i := by
  induction x generalizing z z' i with
  | nil => rfl
  | cons a xs ih =>
    cases i with
    | zero => rw [List.drop_zero, List.drop_zero] at h; rw [h]
    | succ i =>
      have hl := lfilterStep_length_eq b0 bt atl z a hb hal
      have hl' := lfilterStep_length_eq b0 bt atl z' a (hb.trans hlen.symm) (hal.trans hlen.symm)
      simp only [lfilter, List.drop_succ_cons]
      refine ih _ _ i (hb.trans hl.symm) (hal.trans hl.symm) (hl'.trans (hlen.trans hl.symm))
        (by rw [hl]; exact Nat.le_of_succ_le hi) ?_
      rw [lfilterStep_drop_fir b0 bt atl ha z a i hi, lfilterStep_drop_fir b0 bt atl ha z' a i (hlen ▸ hi), h]

theorem lfilter_fir_flush (b0 : ℝ) (bt atl : List ℝ) (ha : ∀ a ∈ atl, a = 0) (x z z' : List ℝ)
    (hb : bt.length = z.length) (hal : atl.length = z.length) (hlen : z'.length = z.length)
    (d : ℕ) (hd : z.length ≤ d) :
    (lfilter b0 bt atl z x).1.drop d = (lfilter b0 bt atl z' x).1.drop d := by
  have h := lfilter_fir_flush_aux b0 bt atl ha x z z' z.length hb hal hlen le_rfl
    (by rw [List.drop_length, List.drop_eq_nil_of_le hlen.le])
  rw [← Nat.add_sub_cancel' hd, ← List.drop_drop, ← List.drop_drop, h]

end Psi.Db

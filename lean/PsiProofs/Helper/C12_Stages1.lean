import PsiProofs.Helper.C12_Run
/-! `discard`, `transform`/`mc_reference`, `iirfilter`, `derivative`, `auto_th`: chunk invariance as an instance of
`stream_run_emits`; the relation `R` given there says what each carry state means. -/
namespace Psi.Stages
variable {α β ρ χ μ S τ : Type}

/-- `discard(d)`: the signal without its first `d` samples, first block at `s0 + d` -/
theorem discard_chunk_invariant (d : Nat) (ann : Ann ρ χ μ) (s : Int) (cs : List (List α)) :
    ∃ bs, outputs (runStage discardStep d (stream ann s cs)) = .ok bs
      ∧ Emits bs (cs.flatten.drop d) 1 (s + d) ann := by
  refine stream_run_emits (fun (st : Nat) s t F => t = s + st ∧ F = fun x => x.drop st) ?_ ?_ cs ⟨rfl, rfl⟩
  · rintro st s t F ⟨-, rfl⟩; exact List.drop_nil
  · rintro st s t F c ⟨rfl, rfl⟩
    -- in every branch what goes out is `c.drop st` (whole, nothing, or a tail) and `st - |c|` is left to discard
    have hstep : ∃ o, discardStep st ({ data := c, s0 := s, ann := ann } : PD α ρ χ μ) = .ok (o, st - c.length)
        ∧ Emits o (c.drop st) 1 (s + st) ann := by
      by_cases h0 : st = 0
      · subst h0
        refine ⟨[⟨c, s, ann⟩], by rw [Nat.zero_sub]; rfl, ?_⟩
        rw [List.drop_zero, Int.natCast_zero, Int.add_zero]
        exact Emits.single _ 1
      · by_cases hle : c.length ≤ st
        · refine ⟨[], by simp only [discardStep, h0, PD.len, hle, ↓reduceIte], ?_⟩
          rw [List.drop_eq_nil_of_le hle]; exact Emits.nil _ _ _
        · refine ⟨[⟨c.drop st, s + st, ann⟩], ?_, Emits.single _ 1⟩
          simp only [discardStep, h0, PD.len, hle, ↓reduceIte, PD.dropN,
            Nat.sub_eq_zero_of_le (Nat.le_of_not_le hle)]
    obtain ⟨o, ho, he⟩ := hstep
    refine ⟨o, _, _, fun x => x.drop (st - c.length), _, ho, he, fun x => List.drop_append, rfl, ?_, rfl⟩
    rw [List.length_drop]; omega

/-- `transform(f)` with a pointwise `f` -/
theorem transform_pointwise_chunk_invariant (g : α → β) (ann : Ann ρ χ μ) (s : Int) (cs : List (List α)) :
    ∃ bs, outputs (runStage (transformStep (pointwise g)) () (stream ann s cs)) = .ok bs
      ∧ Emits bs (cs.flatten.map g) 1 s ann := by
  refine stream_run_emits (fun _ s t F => s = t ∧ F = fun x => x.map g) ?_ ?_ cs ⟨rfl, rfl⟩
  · rintro st s t F ⟨-, rfl⟩; rfl
  · rintro st s t F c ⟨rfl, rfl⟩
    refine ⟨_, (), c.map g, _, _, rfl, Emits.single (⟨c.map g, s, ann⟩ : PD β ρ χ μ) 1, fun x => List.map_append, rfl, ?_, rfl⟩
    rw [List.length_map, Int.one_mul]

/-- `mc_reference(matrix)`: `matrix @ ·` acts on each time column, so it is `transform` with a pointwise function -/
theorem mc_reference_chunk_invariant (mat : α → β) (ann : Ann ρ χ μ) (s : Int) (cs : List (List α)) :
    ∃ bs, outputs (runStage (transformStep (pointwise mat)) () (stream ann s cs)) = .ok bs
      ∧ Emits bs (cs.flatten.map mat) 1 s ann :=
  transform_pointwise_chunk_invariant mat ann s cs

/-- `iirfilter`: the state machine `m` started in the state scaled by the very first sample, run over the whole signal;
annotations (incl. channel and metadata, as repaired) kept.  Empty chunks after the first are covered although
`lfilter` returns an arbitrary state for them. -/
theorem iirfilter_chunk_invariant (m : Mealy α β S) (lf : S → List α → List β × S) (hlf : LfilterIs lf m)
    (init : α → S) (ann : Ann ρ χ μ) (s : Int)
    (x0 : α) (c0 : List α) (cs : List (List α)) :
    ∃ bs, outputs (runStage (iirStep lf init) none (stream ann s ((x0 :: c0) :: cs))) = .ok bs
      ∧ Emits bs (m.run (init x0) ((x0 :: c0) :: cs).flatten).1 1 s ann := by
  -- the first send takes the state from the first sample and then goes on as from that state
  have e : runStage (iirStep lf init) none (stream ann s ((x0 :: c0) :: cs))
      = runStage (iirStep lf init) (some (init x0)) (stream ann s ((x0 :: c0) :: cs)) := by
    rw [stream_cons]; rfl
  rw [e]
  refine stream_run_emits (fun st s t F => s = t ∧ ∃ z, st = some z ∧ F = fun x => (m.run z x).1) ?_ ?_ _
    ⟨rfl, init x0, rfl, rfl⟩
  · rintro st s t F ⟨-, z, -, rfl⟩; rfl
  · rintro st s t F c ⟨rfl, z, rfl, rfl⟩
    refine ⟨[⟨(m.run z c).1, s, ann⟩], some (m.run z c).2, (m.run z c).1, _, _, ?_, Emits.single _ 1,
      fun x => by simp only [Mealy.run_append], rfl, ?_, _, rfl, rfl⟩
    · simp only [iirStep, iirInit, lfGuard_eq hlf, PD.withData]
    · rw [Mealy.run_length, Int.one_mul]

theorem derivativeStep_none (init : α) (d : α → α → β) (y : PD α ρ χ μ) :
    derivativeStep init d none y
      = derivativeStep init d (some { data := [init], s0 := y.s0 - 1, ann := y.ann }) y := rfl

/-- `derivative(init)`: `np.diff` of `init` followed by the whole signal -/
theorem derivative_chunk_invariant (init : α) (d : α → α → β) (ann : Ann ρ χ μ) (s : Int)
    (cs : List (List α)) :
    ∃ bs, outputs (runStage (derivativeStep init d) none (stream ann s cs)) = .ok bs
      ∧ Emits bs (diffs d (init :: cs.flatten)) 1 s ann := by
  refine stream_run_emits (fun st s t F => s = t ∧ ∃ a, (st = some { data := [a], s0 := s - 1, ann := ann }
      ∨ st = none ∧ a = init) ∧ F = fun x => diffs d (a :: x)) ?_ ?_ cs ⟨rfl, init, Or.inr ⟨rfl, rfl⟩, rfl⟩
  · rintro st s t F ⟨-, a, -, rfl⟩; rfl
  · rintro st s t F c ⟨rfl, a, hst, rfl⟩
    have hstep : derivativeStep init d st { data := c, s0 := s, ann := ann }
        = .ok ([{ data := diffs d (a :: c), s0 := s, ann := ann }],
               some { data := [c.getLastD a], s0 := s + c.length - 1, ann := ann }) := by
      have hst' : derivativeStep init d st { data := c, s0 := s, ann := ann }
          = derivativeStep init d (some { data := [a], s0 := s - 1, ann := ann }) { data := c, s0 := s, ann := ann } := by
        rcases hst with rfl | ⟨rfl, rfl⟩
        · rfl
        · exact derivativeStep_none ..
      have hcat : cat ({ data := [a], s0 := s - 1, ann := ann } : PD α ρ χ μ) { data := c, s0 := s, ann := ann }
          = .ok { data := a :: c, s0 := s - 1, ann := ann } := by
        unfold cat; rw [if_pos (by simp only [PD.len, List.length_singleton]; omega)]; rfl
      rw [hst']
      simp only [derivativeStep, hcat, PD.lastN, PD.len, List.length_cons, Nat.add_sub_cancel, drop_length_cons]
      congr 5 <;> omega
    refine ⟨_, _, _, _, _, hstep, Emits.single _ 1, fun x => diffs_append d a c x, rfl, ?_, _, Or.inl rfl, rfl⟩
    simp only [diffs_length, Int.one_mul]

/-- whole-signal definition of `auto_th` -/
def autoSpec (thr : List α → τ) (cmp : τ → α → β) (bl : Nat) (x : List α) : List β :=
  if x.length < bl then [] else x.map (cmp (thr (x.take bl)))

section
variable (thr : List α → τ) (cmp : τ → α → β) (addTh : τ → μ → μ) (bl : Nat)

theorem autoTh_running (ann : Ann ρ χ μ) (th : τ) (cs : List (List α)) (s : Int) :
    ∃ bs, outputs (runStage (autoThStep thr cmp addTh bl) (.running th) (stream ann s cs)) = .ok bs
      ∧ Emits bs (cs.flatten.map (cmp th)) 1 s { ann with metadata := addTh th ann.metadata } := by
  refine stream_run_emits (fun st s t F => s = t ∧ st = .running th ∧ F = fun x => x.map (cmp th)) ?_ ?_ cs
    ⟨rfl, rfl, rfl⟩
  · rintro st s t F ⟨-, -, rfl⟩; rfl
  · rintro st s t F c ⟨rfl, rfl, rfl⟩
    refine ⟨_, _, c.map (cmp th), _, _, rfl,
      Emits.single (⟨c.map (cmp th), s, { ann with metadata := addTh th ann.metadata }⟩ : PD β ρ χ μ) 1,
      fun x => List.map_append, rfl, ?_, rfl, rfl⟩
    rw [List.length_map, Int.one_mul]

/-- The accumulating phase.  The annotation of what is emitted depends on the whole signal (the threshold of its
first `bl` samples), so this phase is not an instance of `stream_run_emits`: nothing is emitted until the chunk
that completes the baseline, which emits everything buffered and hands over to `autoTh_running`. -/
theorem autoTh_acc (ann : Ann ρ χ μ) : ∀ (cs : List (List α)) (buf : List α) (s t : Int) (st : AutoSt α ρ χ μ τ),
    s = t + buf.length →
    (st = .acc { data := buf, s0 := t, ann := ann } ∧ buf.length < bl ∨ st = .first ∧ buf = []) →
    ∃ bs, outputs (runStage (autoThStep thr cmp addTh bl) st (stream ann s cs)) = .ok bs
      ∧ Emits bs (autoSpec thr cmp bl (buf ++ cs.flatten)) 1 t
          { ann with metadata := addTh (thr ((buf ++ cs.flatten).take bl)) ann.metadata } := by
  intro cs
  induction cs with
  | nil =>
    intro buf s t st _ h
    refine ⟨[], rfl, ?_⟩
    have : autoSpec thr cmp bl (buf ++ ([] : List (List α)).flatten) = [] := by
      rw [List.flatten_nil, List.append_nil, autoSpec]
      rcases h with ⟨-, h⟩ | ⟨-, rfl⟩
      · rw [if_pos h]
      · split <;> rfl
    rw [this]; exact Emits.nil _ _ _
  | cons c cs ih =>
    intro buf s t st hs h
    subst hs
    have hstep : autoThStep thr cmp addTh bl st { data := c, s0 := t + buf.length, ann := ann }
        = if (buf ++ c).length < bl then .ok ([], .acc { data := buf ++ c, s0 := t, ann := ann })
          else .ok ([{ data := (buf ++ c).map (cmp (thr ((buf ++ c).take bl))), s0 := t,
                       ann := { ann with metadata := addTh (thr ((buf ++ c).take bl)) ann.metadata } }],
                    .running (thr ((buf ++ c).take bl))) := by
      rcases h with ⟨rfl, -⟩ | ⟨rfl, rfl⟩
      · simp only [autoThStep, cat, PD.len, ↓reduceIte]; rfl
      · simp only [autoThStep, PD.len, List.length_nil, Int.natCast_zero, Int.add_zero, List.nil_append]
    rw [stream_cons, List.flatten_cons, ← List.append_assoc, next_pos]
    by_cases hlt : (buf ++ c).length < bl
    · rw [if_pos hlt] at hstep
      obtain ⟨bs, hr, he⟩ := ih (buf ++ c) _ t _ rfl (Or.inl ⟨rfl, hlt⟩)
      exact ⟨bs, by rw [outputs_cons hstep, hr]; rfl, he⟩
    · rw [if_neg hlt] at hstep
      have hge : bl ≤ (buf ++ c).length := Nat.le_of_not_lt hlt
      obtain ⟨bs, hr, he⟩ := autoTh_running thr cmp addTh bl ann (thr ((buf ++ c).take bl)) cs
        (t + ((buf ++ c).length : Nat))
      refine ⟨_ :: bs, by rw [outputs_cons hstep, hr]; rfl, ?_⟩
      have hspec : autoSpec thr cmp bl (buf ++ c ++ cs.flatten)
          = (buf ++ c).map (cmp (thr ((buf ++ c).take bl))) ++ cs.flatten.map (cmp (thr ((buf ++ c).take bl))) := by
        rw [autoSpec, if_neg (by rw [List.length_append]; omega), List.take_append_of_le_length hge, List.map_append]
      rw [hspec, List.take_append_of_le_length hge]
      refine Emits.cons _ he rfl rfl ?_ rfl
      simp only [PD.len, List.length_map, Int.one_mul]

end

/-- `auto_th(baseline)`: nothing until `baseline` samples are known; then every sample of the whole signal compared
with the threshold of its first `baseline` samples; metadata gains the threshold -/
theorem auto_th_chunk_invariant (thr : List α → τ) (cmp : τ → α → β) (addTh : τ → μ → μ) (bl : Nat)
    (ann : Ann ρ χ μ) (s : Int) (cs : List (List α)) :
    ∃ bs, outputs (runStage (autoThStep thr cmp addTh bl) .first (stream ann s cs)) = .ok bs
      ∧ Emits bs (autoSpec thr cmp bl cs.flatten) 1 s
          { ann with metadata := addTh (thr (cs.flatten.take bl)) ann.metadata } := by
  exact autoTh_acc thr cmp addTh bl ann cs [] s s .first (Int.add_zero s).symm (Or.inr ⟨rfl, rfl⟩)

end Psi.Stages

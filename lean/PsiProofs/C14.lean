import PsiProofs.Helper.C14_Reads
import PsiProofs.Helper.C14_Filled
import PsiProofs.Helper.C14_Channels
/-!
# C14 — the signal buffer returns exactly the retained window of the logical stream

About the model `PsiModel/Buffer.lean` of `psiaudio/buffer.py` (with the repairs
notes/C14_fix_1.diff, notes/C14_fix_2.diff), for every capacity ≥ 1, every cell type `α` (a column,
for any channel count) and every history of appends, invalidations and resizes (≥ 1).  `Spec` is
the property text: a logical stream, of which every operation retains the most recent
`min capacity available` samples.
-/
namespace Psi.Buffer

variable {α : Type}

def Op.WF : Op α → Prop
  | .resize c => 0 < c
  | _ => True

/-- `resize(c)` stores `get_latest(-c, fill)`: `p` fill cells, then the last `w` samples of the
stream, `p + w = c`; if any cell is padded the samples start at the lower bound. -/
theorem refines_resizeE {s : State α} {sp : Spec α} (r : Refines s sp) (c : Nat) (hc : 0 < c) :
    ∃ s', resizeE s c = .ok s' ∧ Refines s' (sp.resize c) := by
  obtain ⟨m, hi, hl⟩ := r.valid
  have hc0 : -(c : Int) ≤ 0 := Int.neg_nonpos_of_nonneg (Int.natCast_nonneg c)
  have ha : -(c : Int) + sp.hi ≤ 0 + sp.hi := Int.add_le_add_right hc0 _
  obtain ⟨p, x, w, q, hb, h⟩ := sp.filled_pads r.lo_le s.fillv ha
    ((Int.zero_add _).symm ▸ Int.ofNat_le.2 r.lo_le)
    (Int.le_trans ha (Int.le_of_eq (Int.zero_add _)))
  have hlen := h.length s.fillv
  rw [← hb, Int.add_sub_add_right, Int.sub_neg, Int.zero_add (c : Int), Int.toNat_natCast] at hlen
  obtain ⟨hx, hp, -, hy, hq, -⟩ := h
  unfold Spec.hi at hx hy hq
  obtain ⟨rfl, hw⟩ : q = 0 ∧ x + w = sp.stream.length := by omega
  rw [List.replicate_zero, List.append_nil, show x + w = sp.hi from hw, sp.slice_to_end] at hb
  unfold resizeE Spec.resize
  rw [r.latest_some, show sp.hi - sp.lo = m from Nat.sub_eq_of_eq_add' hl.symm]
  refine ⟨_, rfl, ?_⟩
  generalize sp.filled (-(c : Int) + sp.hi) (0 + sp.hi) s.fillv = b at hb hlen
  have hpw : p + w = c := by omega
  -- `_ilb + (new - cap)` is `c - m`, cut off at 0
  have hilb : ((s.ilb : Int) + ((b.length : Int) - s.cap)).toNat = c - m := by
    rw [hlen, show (s.ilb : Int) + ((c : Int) - s.cap) = (c : Int) - m by omega, Int.toNat_sub]
  refine refines_retain (l := b) (n₀ := 0) (a := p) (b := x) (m₀ := w) (hlen ▸ hc) hlen rfl hlen
    r.samples_eq ?_ ?_ hpw hw ?_
  · exact hilb.symm ▸ Nat.sub_add_min_cancel c m
  · rw [hb, List.drop_left' List.length_replicate]
  · refine Nat.le_trans ?_ (Nat.le_of_eq hilb.symm)
    rcases hp with rfl | rfl
    · exact Nat.zero_le _
    · exact Nat.le_sub_of_add_le (Nat.add_left_cancel (hw.trans hl.symm) ▸ Nat.le_of_eq hpw)

theorem refines_resize {s : State α} {sp : Spec α} (r : Refines s sp) (c : Nat) (hc : 0 < c) :
    Refines (resize s c) (sp.resize c) := by
  obtain ⟨s', h, r'⟩ := refines_resizeE r c hc
  unfold resize
  rw [h]
  exact r'

theorem refines_step {s : State α} {sp : Spec α} (r : Refines s sp) (op : Op α) (h : op.WF) :
    Refines (step s op) (sp.step op) := by
  cases op with
  | append xs => exact refines_append r xs
  | invalidate i => exact refines_invalidate r i
  | resize c => exact refines_resize r c h

theorem refines_run {s : State α} {sp : Spec α} (r : Refines s sp) (ops : List (Op α))
    (h : ∀ op ∈ ops, op.WF) : Refines (run s ops) (sp.run ops) := by
  induction ops generalizing s sp with
  | nil => exact r
  | cons op ops ih =>
    obtain ⟨hop, hops⟩ := List.forall_mem_cons.1 h
    exact ih (refines_step r op hop) hops

/-- After any history from a fresh buffer the storage represents exactly the window `[lo, hi)` of
the logical stream that the specification retains. -/
theorem refines_history (cap : Nat) (hc : 0 < cap) (fillv nanv : α) (ops : List (Op α))
    (h : ∀ op ∈ ops, op.WF) :
    Refines (run (init cap fillv nanv) ops) (Spec.run (Spec.init cap) ops) :=
  refines_run (refines_init cap hc fillv nanv) ops h

/-- After every history `get_samples_lb() ≤ get_samples_ub()` = length of the logical stream, and
`_ilb ≤ capacity = len(_buffer)`. -/
theorem bounds_history (cap : Nat) (hc : 0 < cap) (fillv nanv : α) (ops : List (Op α))
    (h : ∀ op ∈ ops, op.WF) :
    let s := run (init cap fillv nanv) ops
    let sp := Spec.run (Spec.init cap) ops
    samplesLb s ≤ samplesUb s ∧ samplesUb s = sp.stream.length ∧ samplesLb s = sp.lo
      ∧ s.ilb ≤ s.cap ∧ s.buf.length = s.cap ∧ s.cap = sp.cap := by
  intro s sp
  have r : Refines s sp := refines_history cap hc fillv nanv ops h
  refine ⟨?_, r.samplesUb_eq, r.samplesLb_eq, r.ilb_le, r.len, r.cap_eq⟩
  rw [r.samplesLb_eq, r.samplesUb_eq]
  exact Int.ofNat_le.2 r.lo_le

/-- The specification retains the most recent `min capacity available` samples: `available` is the
old window plus the chunk for an append, the part of the old window below `i` for an invalidation
at `i < hi`, the old window for a resize. -/
theorem window_is_recent (sp : Spec α) (hlo : sp.lo ≤ sp.stream.length)
    (hw : sp.stream.length - sp.lo ≤ sp.cap) :
    (∀ xs, (sp.append xs).hi - (sp.append xs).lo = min sp.cap ((sp.hi - sp.lo) + xs.length)
          ∧ (sp.append xs).stream = sp.stream ++ xs)
    ∧ (∀ i, i < sp.hi → (sp.invalidate i).hi - (sp.invalidate i).lo = min sp.cap (i - sp.lo)
          ∧ (sp.invalidate i).stream = sp.stream.take i ∧ (sp.invalidate i).hi = i)
    ∧ (∀ i, sp.hi ≤ i → sp.invalidate i = sp)
    ∧ (∀ c, (sp.resize c).hi - (sp.resize c).lo = min c (sp.hi - sp.lo)
          ∧ (sp.resize c).stream = sp.stream ∧ (sp.resize c).cap = c) := by
  refine ⟨fun xs => ⟨Spec.retain_window _ _ _ ?_, rfl⟩, fun i hi => ?_,
    fun i hi => Spec.invalidate_of_ge sp i hi,
    fun c => ⟨Spec.retain_window _ _ _ (Nat.le_trans (Nat.min_le_right _ _) (Nat.sub_le _ _)),
      rfl, rfl⟩⟩
  · rw [List.length_append]
    exact Nat.le_trans (Nat.min_le_right _ _) (Nat.add_le_add_right (Nat.sub_le _ _) _)
  · have ht : (sp.stream.take i).length = i := List.length_take_of_le (Nat.le_of_lt hi)
    rw [Spec.invalidate_of_lt sp i hi]
    exact ⟨Spec.retain_window _ _ _
      (ht.symm ▸ Nat.le_trans (Nat.min_le_right _ _) (Nat.sub_le _ _)), rfl, ht⟩

/-- … and after every history the default read `get_range_samples()` returns exactly that window. -/
theorem window_history (cap : Nat) (hc : 0 < cap) (fillv nanv : α) (ops : List (Op α))
    (h : ∀ op ∈ ops, op.WF) :
    let s := run (init cap fillv nanv) ops
    let sp := Spec.run (Spec.init cap) ops
    window s = .ok (sp.stream.drop sp.lo) ∧ (sp.stream.drop sp.lo).length = sp.hi - sp.lo
      ∧ sp.hi - sp.lo ≤ s.cap := by
  intro s sp
  have r : Refines s sp := refines_history cap hc fillv nanv ops h
  exact ⟨r.window_eq, List.length_drop, r.cap_eq ▸ r.window_le⟩

/-- A range query inside the window returns exactly those samples of the logical stream. -/
theorem read_inside (cap : Nat) (hc : 0 < cap) (fillv nanv : α) (ops : List (Op α))
    (h : ∀ op ∈ ops, op.WF) (lb ub : Nat) :
    let s := run (init cap fillv nanv) ops
    let sp := Spec.run (Spec.init cap) ops
    sp.lo ≤ lb → lb ≤ ub → ub ≤ sp.stream.length →
    rangeSamples s lb ub = .ok ((sp.stream.drop lb).take (ub - lb)) := by
  intro s sp h1 h2 h3
  exact (refines_history cap hc fillv nanv ops h).rangeSamples_inside lb ub (Int.ofNat_le.2 h1)
    (Int.ofNat_le.2 h2) (Int.ofNat_le.2 h3)

/-- A query reaching outside the window (below the lower bound, above the upper bound, or a
negative sample number) raises IndexError. -/
theorem read_outside (cap : Nat) (hc : 0 < cap) (fillv nanv : α) (ops : List (Op α))
    (h : ∀ op ∈ ops, op.WF) (lb ub : Int) :
    let s := run (init cap fillv nanv) ops
    let sp := Spec.run (Spec.init cap) ops
    (lb < sp.lo ∨ (sp.stream.length : Int) < ub) →
    rangeSamples s lb ub = .error .indexError := by
  intro s sp hout
  have r : Refines s sp := refines_history cap hc fillv nanv ops h
  exact r.rangeSamples_outside lb ub hout

/-- `get_range_filled` pads precisely the missing part, for every request `[a, b)` (overlapping the
window, disjoint from it, or empty). -/
theorem filled_pads_exactly (cap : Nat) (hc : 0 < cap) (fillv nanv : α) (ops : List (Op α))
    (h : ∀ op ∈ ops, op.WF) (a b : Int) (hab : a ≤ b) (fill : α) :
    let s := run (init cap fillv nanv) ops
    let sp := Spec.run (Spec.init cap) ops
    ∃ out, rangeFilled s a b fill = .ok out ∧ out.length = (b - a).toNat
      ∧ (∀ j : Nat, a + j < b → (sp.lo : Int) ≤ a + j → a + j < sp.stream.length →
            out[j]? = sp.stream[(a + j).toNat]?)
      ∧ (∀ j : Nat, a + j < b → (a + j < sp.lo ∨ (sp.stream.length : Int) ≤ a + j) →
            out[j]? = some fill) := by
  intro s sp
  have r : Refines s sp := refines_history cap hc fillv nanv ops h
  refine ⟨sp.filled a b fill, r.rangeFilled_eq a b fill, Spec.filled_length sp r.lo_le a b fill hab,
    fun j h1 h2 h3 => (sp.filled_getElem? r.lo_le a b fill j h1).trans (if_pos ⟨h2, h3⟩),
    fun j h1 h2 => (sp.filled_getElem? r.lo_le a b fill j h1).trans
      (if_neg (fun c => h2.elim (Int.not_lt.2 c.1) (Int.not_le.2 c.2)))⟩

/-- `get_latest` is the same read relative to the newest sample: without fill value the exact
slice or IndexError, with a fill value the filled read. -/
theorem latest_history (cap : Nat) (hc : 0 < cap) (fillv nanv : α) (ops : List (Op α))
    (h : ∀ op ∈ ops, op.WF) (lb ub : Int) (hle : lb ≤ ub) :
    let s := run (init cap fillv nanv) ops
    let sp := Spec.run (Spec.init cap) ops
    latest s lb ub none = sp.read (lb + sp.hi) (ub + sp.hi)
      ∧ ∀ fill, latest s lb ub (some fill) = .ok (sp.filled (lb + sp.hi) (ub + sp.hi) fill) := by
  intro s sp
  have r : Refines s sp := refines_history cap hc fillv nanv ops h
  refine ⟨?_, fun fill => r.latest_some lb ub fill⟩
  unfold latest
  rw [r.samplesUb_eq]
  exact r.rangeSamples_eq _ _ (Int.add_le_add_right hle _)

/-- `resize` never fails and takes effect as requested, growing and shrinking (its docstring says
shrink requests are ignored; the code honours them). -/
theorem resize_ok (cap : Nat) (hc : 0 < cap) (fillv nanv : α) (ops : List (Op α))
    (h : ∀ op ∈ ops, op.WF) (c : Nat) (hpos : 0 < c) :
    ∃ s', resizeE (run (init cap fillv nanv) ops) c = .ok s' ∧ s'.cap = c
      ∧ Refines s' ((Spec.run (Spec.init cap) ops).resize c) := by
  have r := refines_history cap hc fillv nanv ops h
  obtain ⟨s', h1, h2⟩ := refines_resizeE r c hpos
  exact ⟨s', h1, h2.cap_eq, h2⟩

/-- Channels are independent columns: with `f` the projection of a column on one channel, a
multichannel buffer behaves like a one-channel buffer, in its state and in every read. -/
theorem channels_independent {β : Type} (f : α → β) (cap : Nat) (fillv nanv : α) (ops : List (Op α))
    (lb ub : Int) (fill : α) :
    let s := run (init cap fillv nanv) ops
    let t := run (init cap (f fillv) (f nanv)) (ops.map (Op.map f))
    s.map f = t
      ∧ (rangeSamples s lb ub).map (List.map f) = rangeSamples t lb ub
      ∧ (rangeFilled s lb ub fill).map (List.map f) = rangeFilled t lb ub (f fill)
      ∧ samplesLb s = samplesLb t ∧ samplesUb s = samplesUb t := by
  intro s t
  have e : s.map f = t := by
    show (run (init cap fillv nanv) ops).map f = _
    rw [map_run, map_init]
  refine ⟨e, ?_, ?_, ?_, ?_⟩
  · rw [← e]; exact map_rangeSamples f s lb ub
  · rw [← e]; exact map_rangeFilled f s lb ub fill
  · rw [← e]; rfl
  · rw [← e]; rfl

deriving instance DecidableEq for Except

/-- `_invalidate` with the original guard `i <= 0`: `cap 5; append 9; resize 10; invalidate 0`
leaves lower bound 4 > upper bound 0 and `_ilb = 14 > capacity = 10`. -/
theorem invalidate_orig_counterexample :
    let s := invalidateSamplesOrig
      (resize (append (init 5 0 0 : State Nat) [1, 2, 3, 4, 5, 6, 7, 8, 9]) 10) 0
    samplesLb s = 4 ∧ samplesUb s = 0 ∧ s.ilb = 14 ∧ s.cap = 10 := by
  decide

/-- … and what is appended afterwards cannot be read back. -/
theorem invalidate_orig_unreachable :
    let s := append (invalidateSamplesOrig
      (resize (append (init 5 0 0 : State Nat) [1, 2, 3, 4, 5, 6, 7, 8, 9]) 10) 0) [21, 22]
    samplesUb s = 2 ∧ rangeSamples s 0 2 = .error .indexError := by
  decide

/-- `get_range_filled` with the original arithmetic: on a fresh buffer a request for the two
samples `[-3, -1)` returns three cells, and one for `[1, 3)` returns three cells. -/
theorem filled_orig_counterexample :
    rangeFilledOrig (init 1 0 0 : State Nat) (-3) (-1) 7 = .ok [7, 7, 7]
      ∧ rangeFilledOrig (init 1 0 0 : State Nat) 1 3 7 = .ok [7, 7, 7] := by
  decide

def exOps : List (Op (Nat × Nat)) :=
  [.append [(1, 11), (2, 12), (3, 13), (4, 14), (5, 15), (6, 16), (7, 17), (8, 18), (9, 19)],
   .resize 10, .invalidate 0, .append [(21, 31), (22, 32), (23, 33)], .resize 2, .invalidate 2]

theorem exOps_wf : ∀ op ∈ exOps, op.WF := by
  intro op h
  simp only [exOps, List.mem_cons, List.not_mem_nil, or_false] at h
  rcases h with h | h | h | h | h | h <;> subst h <;> simp [Op.WF]

example : Refines (run (init 5 (0, 0) (0, 0)) exOps) (Spec.run (Spec.init 5) exOps) :=
  refines_history 5 (by decide) _ _ exOps exOps_wf
example : (Spec.run (Spec.init 5) exOps : Spec (Nat × Nat)) = ⟨[(21, 31), (22, 32)], 1, 2⟩ := by decide
example : samplesLb (run (init 5 (0, 0) (0, 0)) exOps) = 1 ∧ samplesUb (run (init 5 (0, 0) (0, 0)) exOps) = 2 := by
  decide
example := bounds_history 5 (by decide) (0, 0) (0, 0) exOps exOps_wf
example := window_history 5 (by decide) (0, 0) (0, 0) exOps exOps_wf
-- read inside: lo = 1 ≤ 1 ≤ 2 ≤ hi = 2
example : rangeSamples (run (init 5 (0, 0) (0, 0)) exOps) 1 2 = .ok [(22, 32)] :=
  read_inside 5 (by decide) (0, 0) (0, 0) exOps exOps_wf 1 2 (by decide) (by decide) (by decide)
-- read outside: lb = 0 < lo = 1
example : rangeSamples (run (init 5 (0, 0) (0, 0)) exOps) 0 2 = .error .indexError :=
  read_outside 5 (by decide) (0, 0) (0, 0) exOps exOps_wf 0 2 (by decide)
example := filled_pads_exactly 5 (by decide) (0, 0) (0, 0) exOps exOps_wf (-1) 4 (by decide) (7, 7)
example : rangeFilled (run (init 5 (0, 0) (0, 0)) exOps) (-1) 4 (7, 7)
    = .ok [(7, 7), (7, 7), (22, 32), (7, 7), (7, 7)] := by decide
example := latest_history 5 (by decide) (0, 0) (0, 0) exOps exOps_wf (-2) 0 (by decide)
example := resize_ok 5 (by decide) (0, 0) (0, 0) exOps exOps_wf 1 (by decide)
example := channels_independent Prod.fst 5 (0, 0) (0, 0) exOps 1 2 (7, 7)
-- window_is_recent: its hypotheses hold in a state with a full window
example : let sp : Spec Nat := ⟨[1, 2, 3, 4, 5], 2, 3⟩
    sp.lo ≤ sp.stream.length ∧ sp.stream.length - sp.lo ≤ sp.cap := by decide
example := window_is_recent (⟨[1, 2, 3, 4, 5], 2, 3⟩ : Spec Nat) (by decide) (by decide)

end Psi.Buffer

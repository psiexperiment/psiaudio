import PsiProofs.Helper.C12Ext2_Capture
import PsiProofs.Helper.C12Ext2_Band
import PsiProofs.C12
/-!
# EXT12 — `rms_band`, `capture`, `events_to_info` of psiaudio/pipeline.py

Model: `PsiModel/StagesExt2.lean` (the code as it is; notes/EXT12.md §9–§12).  The theorems hold for every list of
chunks and, for `capture`, every history before the request, hence every arrival time of the request relative to the
data.  Registered in `registry/EXT12.txt`, not part of the verdict of any listed property.  `…_partial`: as in
`C12Ext.lean`.
-/
namespace Psi.StagesExt2
open Psi.Stages Psi.StagesExt
variable {α β ρ χ μ τ κ ι : Type}

/-! `rms_band` is the block loop of `rms` with another block function and another annotation of the result, not a
composition of `iirfilter` and `rms` (notes/EXT12.md §10, §12).  Hence it is related to the `rms` model of C12:
`rms_band = renumber ∘ rms[block function := band]`. -/

/-- on any sequence of annotated chunks of one rate (contiguous or not) `rms_band` raises `ValueError` exactly when
`rms` does, and otherwise emits the blocks of `rms` with block function `band`, renumbered from output sample 0 and
annotated `fs / n`, default channel, empty metadata -/
theorem rms_band_simulates_rms (band : List α → β) (divFs : ρ → Nat → ρ) (chDef : χ) (mdEmpty : μ) (n : Nat)
    (hn : 0 < n) (f : ρ) (ys : List (PD α ρ χ μ)) (hf : ∀ y ∈ ys, y.ann.fs = f) :
    (∀ e, outputs (runStage (rmsStep band divFs n) {} ys) = .error e →
        outs (run (rmsBandStep band divFs chDef mdEmpty n) {} (ys.map Arr.pd)) = .error .valueError)
    ∧ (∀ bs, outputs (runStage (rmsStep band divFs n) {} ys) = .ok bs →
        outs (run (rmsBandStep band divFs chDef mdEmpty n) {} (ys.map Arr.pd))
          = .ok (renumber ⟨divFs f n, chDef, mdEmpty⟩ 0 bs)) := by
  have h := band_sim band divFs chDef mdEmpty n hn f ys {} {} rfl rfl (Or.inr rfl) hf
  cases hr : runStage (rmsStep band divFs n) {} ys with
  | error e =>
    rw [hr] at h; simp only at h
    exact ⟨fun _ _ => by rw [h]; rfl, fun bs hb => by simp [outputs] at hb⟩
  | ok p =>
    obtain ⟨bs, st⟩ := p
    rw [hr] at h
    obtain ⟨bst', hb⟩ := h
    refine ⟨fun e he => by simp [outputs] at he, fun bs' hb' => ?_⟩
    simp only [outputs, Except.ok.injEq] at hb'
    subst hb'
    rw [hb]; rfl

example : outs (run (rmsBandStep (α := Nat) (χ := Unit) (μ := Unit) List.sum (fun (fs : Nat) n => fs / n) () () 2) {}
      ([⟨[1, 2, 3], 7, ⟨100, (), ()⟩⟩, ⟨[4, 5], 10, ⟨100, (), ()⟩⟩].map Arr.pd))
    = .ok (renumber ⟨50, (), ()⟩ 0 [⟨[3], 7, ⟨50, (), ()⟩⟩, ⟨[7], 9, ⟨50, (), ()⟩⟩]) :=
  (rms_band_simulates_rms List.sum (fun (fs : Nat) n => fs / n) () () 2 (by decide) 100
    [⟨[1, 2, 3], 7, ⟨100, (), ()⟩⟩, ⟨[4, 5], 10, ⟨100, (), ()⟩⟩] (by simp)).2 _ rfl

/-- `rms_band(n)` is chunk-invariant.  Recorded behaviour: the emitted blocks are contiguous from output sample 0 (the
input's `s0` is not carried over) and the input's labels and metadata are dropped. -/
theorem rms_band_chunk_invariant (band : List α → β) (divFs : ρ → Nat → ρ) (chDef : χ) (mdEmpty : μ) (n : Nat)
    (hn : 0 < n) (ann : Ann ρ χ μ) (s : Int) (cs : List (List α)) :
    ∃ bs, outs (run (rmsBandStep band divFs chDef mdEmpty n) {} ((stream ann s cs).map Arr.pd)) = .ok bs
      ∧ Emits bs ((blocksOf n cs.flatten).map band) 1 0 ⟨divFs ann.fs n, chDef, mdEmpty⟩ := by
  obtain ⟨bs, h1, h2⟩ := rms_chunk_invariant band divFs n hn ann s cs
  have hf : ∀ y ∈ stream ann s cs, y.ann.fs = ann.fs := by
    intro y hy; rw [(stream_emits ann cs s).ann y hy]
  refine ⟨_, (rms_band_simulates_rms band divFs chDef mdEmpty n hn ann.fs _ hf).2 bs h1, ?_⟩
  exact emits_renumber h2 _ 0

example : ∃ bs, outs (run (rmsBandStep (α := Nat) (χ := String) (μ := String) List.sum (fun (fs : Nat) n => fs / n) "None" "{}" 2) {}
      ((stream ⟨100, "c", "md"⟩ 7 [[1, 2, 3], [], [4, 5]]).map Arr.pd)) = .ok bs
    ∧ Emits bs ((blocksOf 2 [[1, 2, 3], [], [4, 5]].flatten).map List.sum) 1 0 ⟨100 / 2, "None", "{}"⟩ :=
  rms_band_chunk_invariant _ _ _ _ 2 (by decide) _ 7 _

/-- a plain `ndarray` as first chunk: `data[0].fs` raises `AttributeError` (recorded behaviour; `rms` accepts it) -/
theorem rms_band_plain_first_chunk_raises (band : List α → β) (divFs : ρ → Nat → ρ) (chDef : χ) (mdEmpty : μ) (n : Nat)
    (d : List α) (rest : List (Arr α ρ χ μ)) :
    run (rmsBandStep band divFs chDef mdEmpty n) {} (.plain d :: rest) = .error .attributeError := rfl

example : run (rmsBandStep (α := Nat) (ρ := Nat) (χ := Unit) (μ := Unit) List.sum (fun fs n => fs / n) () () 2) {}
    [.plain [1, 2, 3]] = .error .attributeError := rms_band_plain_first_chunk_raises _ _ _ _ _ _ _

/-- block length 0 (`round(fs * duration) = 0`): `fs / n` raises `ZeroDivisionError` at the first chunk -/
theorem rms_band_zero_block_raises (band : List α → β) (divFs : ρ → Nat → ρ) (chDef : χ) (mdEmpty : μ)
    (y : PD α ρ χ μ) (rest : List (Arr α ρ χ μ)) :
    run (rmsBandStep band divFs chDef mdEmpty 0) {} (.pd y :: rest) = .error .zeroDivision := rfl

example : run (rmsBandStep (α := Nat) (χ := Unit) (μ := Unit) List.sum (fun (fs : Nat) n => fs / n) () () 0) {}
    [.pd ⟨[1, 2, 3], 0, ⟨100, (), ()⟩⟩] = .error .zeroDivision := rms_band_zero_block_raises _ _ _ _ _ _

def samplesOf (h : List (Option (Cmd τ) × Arr α ρ χ μ)) : List α := (h.map fun i => i.2.data).flatten

theorem samples_counted (addCap : Option τ → μ → μ) {h0 : List (Option (Cmd τ) × Arr α ρ χ μ)}
    {o0 : List (Sig (Arr α ρ χ μ))} {st : CapSt τ} (hh : run (captureCore addCap) {} h0 = .ok (o0, st)) :
    st.s0 = (samplesOf h0).length :=
  (run_counts addCap h0 {} st o0 hh).trans (Nat.zero_add _)

theorem run_segment_start (addCap : Option τ → μ → μ) (st : CapSt τ) (t : τ) (r : Int)
    (y : PD α ρ χ μ) (ys : List (PD α ρ χ μ)) :
    run (captureCore addCap) st (segment (.start t r) (y :: ys))
      = (match run (captureCore addCap) { s0 := st.s0, tStart := some t, sNext := some r } (quiet (y :: ys)) with
         | .ok (o, s') => .ok (.restart :: o, s')
         | .error e => .error e) := by
  simp only [segment, quiet, List.map_cons, run, core_start]
  cases captureCore addCap { s0 := st.s0, tStart := some t, sNext := some r } (none, Arr.pd y) with
  | error e => rfl
  | ok p =>
    obtain ⟨o1, s1⟩ := p
    simp only
    cases run (captureCore addCap) s1 (List.map (fun y => (none, Arr.pd y)) ys) with
    | error e => rfl
    | ok q => rfl

/-- `capture`, a request that arrives in time.  After any history `h0` that did not raise (`N` samples have arrived),
a request for start sample `N + k` is taken from the queue when the next chunk arrives.  `target` then receives
`Ellipsis` once and the continuing stream from its `k`-th sample on, contiguous from `s + k`, with
`metadata['capture'] = t0`; no empty block is forwarded. -/
theorem capture_request_forwards_from_start (addCap : Option τ → μ → μ) (ann : Ann ρ χ μ)
    (h0 : List (Option (Cmd τ) × Arr α ρ χ μ)) (o0 : List (Sig (Arr α ρ χ μ))) (st : CapSt τ)
    (hh : run (captureCore addCap) {} h0 = .ok (o0, st))
    (t : τ) (k : Nat) (s : Int) (c : List α) (cs : List (List α)) :
    ∃ bs, outs (run (captureCore addCap) {}
          (h0 ++ segment (.start t (((samplesOf h0).length : Int) + k)) (stream ann s (c :: cs))))
        = .ok (o0 ++ .restart :: dataBlocks bs)
      ∧ Emits bs ((c :: cs).flatten.drop k) 1 (s + k) (capAnn addCap (some t) ann)
      ∧ ∀ b ∈ bs, b.data ≠ [] := by
  have hN := samples_counted addCap hh
  obtain ⟨bs, st', hrun, hem, hne⟩ := quiet_active addCap ann (some t) (c :: cs) st.s0 k s
  refine ⟨bs, ?_, hem, hne⟩
  rw [run_append _ _ hh, stream_cons, run_segment_start, ← stream_cons, ← hN, hrun]
  rfl

example : ∃ bs, outs (run (captureCore (fun t (_ : Option Nat) => t)) {}
      ([(none, Arr.pd ⟨[10, 11], 5, ⟨(), (), none⟩⟩)]
        ++ segment (.start 77 ((2 : Nat) + (1 : Nat))) (stream (⟨(), (), none⟩ : Ann Unit Unit (Option Nat)) 7 [[12, 13], [], [14]])))
      = .ok ([] ++ Sig.restart :: dataBlocks bs)
    ∧ Emits bs ([[12, 13], [], [14]].flatten.drop 1) 1 (7 + (1 : Nat)) (capAnn (fun t (_ : Option Nat) => t) (some 77) ⟨(), (), none⟩)
    ∧ ∀ b ∈ bs, b.data ≠ [] :=
  capture_request_forwards_from_start (fun t (_ : Option Nat) => t) ⟨(), (), none⟩
    [(none, Arr.pd ⟨[10, 11], 5, ⟨(), (), none⟩⟩)] [] _ rfl 77 1 7 [12, 13] [[], [14]]

/-- `capture`, a request that arrives late (recorded behaviour, notes/EXT12.md §12): if the requested start sample has
already gone by when the request is taken from the queue, `target` receives `Ellipsis` and then nothing, however long
the stream continues -/
theorem capture_late_request_forwards_nothing (addCap : Option τ → μ → μ)
    (h0 : List (Option (Cmd τ) × Arr α ρ χ μ)) (o0 : List (Sig (Arr α ρ χ μ))) (st : CapSt τ)
    (hh : run (captureCore addCap) {} h0 = .ok (o0, st))
    (t : τ) (r : Int) (hr : r < ((samplesOf h0).length : Int)) (y : PD α ρ χ μ) (ys : List (PD α ρ χ μ)) :
    outs (run (captureCore addCap) {} (h0 ++ segment (.start t r) (y :: ys))) = .ok (o0 ++ [.restart]) := by
  have hN := samples_counted addCap hh
  rw [run_append _ _ hh, run_segment_start, quiet_silent addCap (y :: ys) st.s0 (some t) (some r) (fun _ h => by cases h; omega)]
  rfl

example : outs (run (captureCore (fun t (_ : Option Nat) => t)) {}
      ([(none, Arr.pd ⟨[10, 11, 12], 0, ⟨(), (), none⟩⟩)]
        ++ segment (.start 77 2) [(⟨[13, 14], 3, ⟨(), (), none⟩⟩ : PD Nat Unit Unit (Option Nat)), ⟨[15], 5, ⟨(), (), none⟩⟩]))
    = .ok [.restart] :=
  capture_late_request_forwards_nothing _ [(none, Arr.pd ⟨[10, 11, 12], 0, ⟨(), (), none⟩⟩)] [] _ rfl 77 2 (by decide) _ _

/-- `None` in the queue ends the capture: nothing is forwarded, and no `Ellipsis` -/
theorem capture_stop_forwards_nothing (addCap : Option τ → μ → μ)
    (h0 : List (Option (Cmd τ) × Arr α ρ χ μ)) (o0 : List (Sig (Arr α ρ χ μ))) (st : CapSt τ)
    (hh : run (captureCore addCap) {} h0 = .ok (o0, st)) (y : PD α ρ χ μ) (ys : List (PD α ρ χ μ)) :
    outs (run (captureCore addCap) {} (h0 ++ segment .stop (y :: ys))) = .ok o0 := by
  rw [run_append _ _ hh]
  simp only [segment, run, core_stop]
  rw [quiet_silent addCap ys _ _ none (fun _ h => nomatch h)]
  simp [outs, Except.map]

example : outs (run (captureCore (fun t (_ : Option Nat) => t)) {}
      ([(some (.start 77 0), Arr.pd ⟨[10, 11], 0, ⟨(), (), none⟩⟩)]
        ++ segment .stop [(⟨[12], 2, ⟨(), (), none⟩⟩ : PD Nat Unit Unit (Option Nat))]))
    = .ok [.restart, .data (.pd ⟨[10, 11], 0, ⟨(), (), some 77⟩⟩)] :=
  capture_stop_forwards_nothing _ [(some (.start 77 0), Arr.pd ⟨[10, 11], 0, ⟨(), (), none⟩⟩)] _ _ rfl _ _

theorem capture_idle_forwards_nothing (addCap : Option τ → μ → μ) (ys : List (PD α ρ χ μ)) :
    outs (run (captureCore (τ := τ) addCap) {} (quiet ys)) = .ok [] := by
  have := quiet_silent (τ := τ) addCap ys 0 none none (fun _ h => nomatch h)
  simp only [Nat.zero_add] at this
  show outs (run (captureCore addCap) { s0 := 0, tStart := none, sNext := none } (quiet ys)) = .ok []
  rw [this]; rfl

example : outs (run (captureCore (τ := Nat) (fun t (_ : Option Nat) => t)) {}
    (quiet [(⟨[1, 2], 0, ⟨(), (), none⟩⟩ : PD Nat Unit Unit (Option Nat))])) = .ok [] := capture_idle_forwards_nothing _ _

/-- plain `ndarray` chunks are counted silently, but the chunk that would be forwarded raises `AttributeError`
(`d.metadata['capture'] = …`) -/
theorem capture_plain_chunk_raises (addCap : Option τ → μ → μ)
    (h0 : List (Option (Cmd τ) × Arr α ρ χ μ)) (o0 : List (Sig (Arr α ρ χ μ))) (st : CapSt τ)
    (hh : run (captureCore addCap) {} h0 = .ok (o0, st))
    (t : τ) (k : Nat) (d : List α) (hk : k < d.length) (rest : List (Option (Cmd τ) × Arr α ρ χ μ)) :
    run (captureCore addCap) {}
      (h0 ++ (some (.start t (((samplesOf h0).length : Int) + k)), .plain d) :: rest) = .error .attributeError := by
  have hN := samples_counted addCap hh
  rw [run_append _ _ hh]
  have hc : ((st.s0 : Int) ≤ ((samplesOf h0).length : Int) + k
      ∧ ((samplesOf h0).length : Int) + k - (st.s0 : Int) < (d.length : Int)) := by omega
  simp [run, captureCore, Arr.data, hc, Except.map]

example : run (captureCore (ρ := Unit) (χ := Unit) (fun t (_ : Option Nat) => t)) {}
    ([(none, Arr.plain [1, 2])] ++ (some (.start 77 ((2 : Nat) + (0 : Nat))), Arr.plain [3]) :: [])
      = .error .attributeError :=
  capture_plain_chunk_raises _ [(none, Arr.plain [1, 2])] [] _ rfl 77 0 [3] (by decide) []

theorem schedule_fifo (h : List (List (Cmd τ) × Arr α ρ χ μ)) (q : List (Cmd τ)) :
    (schedule q h).filterMap (·.1) ++ queueAfter q h = q ++ (h.map (·.1)).flatten := by
  induction h generalizing q with
  | nil => rw [schedule, queueAfter, List.map_nil, List.flatten_nil, List.append_nil]; rfl
  | cons i h ih =>
    obtain ⟨enq, d⟩ := i
    rw [schedule, queueAfter, List.map_cons, List.flatten_cons, ← List.append_assoc, List.filterMap_cons]
    cases q ++ enq with
    | nil => exact ih []
    | cons a l => exact congrArg (a :: ·) (ih l)

/-- the queue: one `popleft()` per chunk.  Running the stage with the real deque is running the core with the entries
`schedule` hands out chunk by chunk, in FIFO order, none lost or duplicated. -/
theorem capture_queue_one_entry_per_chunk (addCap : Option τ → μ → μ) :
    ∀ (h : List (List (Cmd τ) × Arr α ρ χ μ)) (st : CapQSt τ),
    (match run (captureCore addCap) st.core (schedule st.queue h) with
     | .ok (o, c) => run (captureStep addCap) st h = .ok (o, { core := c, queue := queueAfter st.queue h })
     | .error e => run (captureStep addCap) st h = .error e)
    ∧ (schedule st.queue h).filterMap (·.1) ++ queueAfter st.queue h = st.queue ++ (h.map (·.1)).flatten := by
  intro h st
  refine ⟨?_, schedule_fifo h st.queue⟩
  induction h generalizing st with
  | nil => rfl
  | cons i h ih =>
    obtain ⟨enq, d⟩ := i
    rw [schedule, queueAfter]
    cases h1 : captureCore addCap st.core ((st.queue ++ enq).head?, d) with
    | error e =>
      have hs : captureStep addCap st (enq, d) = .error e := by simp only [captureStep, h1]
      rw [run_cons_error h1, run_cons_error hs]
    | ok p =>
      have hs : captureStep addCap st (enq, d) = .ok (p.1, { core := p.2, queue := (st.queue ++ enq).tail }) := by
        simp only [captureStep, h1]
      have ih1 := ih { core := p.2, queue := (st.queue ++ enq).tail }
      rw [run_cons h1, run_cons hs]
      cases h2 : run (captureCore addCap) p.2 (schedule (st.queue ++ enq).tail h) with
      | error e => rw [h2] at ih1; rw [ih1]; rfl
      | ok q => rw [h2] at ih1; rw [ih1]; rfl

example : outs (run (captureStep (fun t (_ : Option Nat) => t)) {}
      [([.start 77 1, .stop], Arr.pd (⟨[10, 11], 0, ⟨(), (), none⟩⟩ : PD Nat Unit Unit (Option Nat))),
       ([], .pd ⟨[12], 2, ⟨(), (), none⟩⟩), ([], .pd ⟨[13], 3, ⟨(), (), none⟩⟩)])
    = .ok [.restart, .data (.pd ⟨[11], 1, ⟨(), (), some 77⟩⟩)] := rfl

def infosOf [DecidableEq κ] (setT0 : τ → ι → ι) (edge : κ) (base : ι) (l : List (κ × τ)) : List ι :=
  (l.filter (fun p => p.1 = edge)).map (fun p => setT0 p.2 base)

/-- `events_to_info` on sequences of `(edge, ts)` pairs (guard: no `Events` object is sent): `target` is called once
per block with one info per event of the trigger edge, `base_info` with `t0` set to the event's time stamp -/
theorem events_to_info_chunk_invariant_partial [DecidableEq κ] (setT0 : τ → ι → ι) (edge : κ) (base : ι)
    (ls : List (List (κ × τ))) :
    outs (run (eventsToInfoStep setT0 edge base) () (ls.map EvIn.pairs)) = .ok (ls.map (infosOf setT0 edge base))
    ∧ (ls.map (infosOf setT0 edge base)).flatten = infosOf setT0 edge base ls.flatten := by
  constructor
  · have h : ∀ l : List (List (κ × τ)),
        run (eventsToInfoStep setT0 edge base) () (l.map EvIn.pairs) = .ok (l.map (infosOf setT0 edge base), ()) := by
      intro l
      induction l with
      | nil => rfl
      | cons a l ih => simp [run, eventsToInfoStep, ih, infosOf]
    rw [h]; rfl
  · induction ls with
    | nil => rfl
    | cons a l ih => simp [infosOf, List.filter_append] at ih ⊢; rw [ih]

example : outs (run (eventsToInfoStep (fun (ts : Nat) (_ : Nat) => ts) true 0) ()
      ([[(true, 3), (false, 4)], [], [(true, 9)]].map EvIn.pairs)) = .ok [[3], [], [9]] :=
  (events_to_info_chunk_invariant_partial _ _ _ _).1

/-- the excluded input (recorded behaviour, notes/EXT12.md §12): an `Events` object — what `edges` emits — is not
iterable: `TypeError` -/
theorem events_to_info_refuses_Events_objects [DecidableEq κ] (setT0 : τ → ι → ι) (edge : κ) (base : ι)
    (ls : List (List (κ × τ))) (b : Psi.Edges.Block) (rest : List (EvIn κ τ)) :
    run (eventsToInfoStep setT0 edge base) () (ls.map EvIn.pairs ++ .events b :: rest) = .error .typeError := by
  induction ls with
  | nil => rfl
  | cons a l ih => simp only [List.map_cons, List.cons_append, run, eventsToInfoStep, ih]

example : run (eventsToInfoStep (fun (ts : Nat) (_ : Nat) => ts) true 0) ()
    [.events ⟨[⟨.rising, 3⟩], 0, 10⟩] = .error .typeError :=
  events_to_info_refuses_Events_objects _ _ _ [] _ []

end Psi.StagesExt2

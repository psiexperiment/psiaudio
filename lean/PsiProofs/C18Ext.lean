import PsiModel.EpochsExt
import PsiProofs.C18
import PsiProofs.Helper.C18Ext_Search
import PsiProofs.Helper.C18Ext_Bits
import PsiProofs.Helper.C18Ext_Pad
/-!
EXT18 — helpers of util.py that property C18 does not name: `epochs(x, pad)`, `epochs_contain`, `epochs_overlap`,
`bin_array`, `int_to_TTL`.  Not part of `./check C18`; registry `registry/EXT18.txt`.
-/
namespace Psi.EpochsExt
open Psi.Epochs

/-- For every `pad` (negative, or larger than the array) `util.epochs(x, pad)` never raises and returns the maximal runs
of the array as the two padding loops left it; the caller's array is modified in place. -/
theorem epochs_pad_eq_runs_of_modified_array (x : List Bool) (pad : Int) :
    epochsPad x pad = (.ok (maximalRuns (padded x pad)), padded x pad) := by
  simp [epochsPad, epochs_eq_runs]

theorem dilate_spec (x : List Bool) (pad : Nat) :
    (dilate x pad).length = x.length ∧
    ∀ (i : Nat) (hi : i < (dilate x pad).length),
      ((dilate x pad)[i] = true ↔ ∃ j, x[j]? = some true ∧ i ≤ j + pad ∧ j ≤ i + pad) :=
  ⟨dilate_length x pad, fun i hi => dilate_getElem_iff x pad i hi⟩

/-- `util.epochs(x, pad)`, `pad ≥ 0`, under the guard that no rising edge is closer than `pad` to the start of the array
(no slice `x[s-pad:s]` has a negative start): the runs of the signal dilated by `pad` on both sides. -/
theorem epochs_pad_eq_runs_dilate_partial (x : List Bool) (pad : Nat)
    (guard : ∀ s ∈ tsRising x, pad ≤ s) :
    epochsPad x (pad : Int) = (.ok (maximalRuns (dilate x pad)), dilate x pad) := by
  rw [epochs_pad_eq_runs_of_modified_array, padded_eq_dilate x pad guard]

example : (∀ s ∈ tsRising [false, false, true, false, false, false, true, false], 2 ≤ s) ∧
    epochsPad [false, false, true, false, false, false, true, false] 2 = (.ok [(0, 8)], List.replicate 8 true) ∧
    epochsPad [false, false, true, false, false, false, true, false] 1
      = (.ok [(1, 4), (5, 8)], [false, true, true, true, false, true, true, true]) := by decide +kernel

/-- the guard is needed: a rising edge at `s < pad` makes `x[s-pad:s]` count from the end of the array (an empty slice
here), so the samples before the run are not padded. -/
theorem epochs_pad_negative_slice_counterexample :
    epochsPad [false, true, false, false] 2 = (.ok [(1, 4)], [false, true, true, true]) ∧
    dilate [false, true, false, false] 2 = [true, true, true, true] ∧
    maximalRuns (dilate [false, true, false, false] 2) = [(0, 4)] ∧
    ¬ (∀ s ∈ tsRising [false, true, false, false], 2 ≤ s) := by decide +kernel

/-- the same quirk when `pad` exceeds the array length: the wrapped slice is not empty but partial. -/
example : epochsPad [false, false, true] 4 = (.ok [(1, 3)], [false, true, true]) ∧
    dilate [false, false, true] 4 = [true, true, true] := by decide +kernel
/-- a negative `pad` passes `if pad:`; `x[e:e+pad]` is `x[1:-1]` here. -/
example : epochsPad [true, false, false, false] (-2) = (.ok [(0, 3)], [true, true, true, false]) := by decide +kernel

/-- with the repair of notes/EXT18_fix_1.diff (`x[max(s-pad, 0):s] = 1`) the guard disappears. -/
theorem epochs_pad_fixed_eq_runs_dilate (x : List Bool) (pad : Nat) :
    epochsPadFixed x (pad : Int) = (.ok (maximalRuns (dilate x pad)), dilate x pad) := by
  simp [epochsPadFixed, epochs_eq_runs, paddedFixed_eq_dilate]

example : epochsPadFixed [false, true, false, false] 2 = (.ok [(0, 4)], [true, true, true, true]) := by decide +kernel

/-- `epochs_contain(e, t)` is `epochs_overlap(e, [(t, t)])`: the same two searches. -/
theorem contain1_eq_overlap1 (e : List (Int × Int)) (t : Int) : contain1 e t = overlap1 e (t, t) := rfl

/-- `util.epochs_contain(e, t)` on a table with `start ≤ end` in every row: the left bound is excluded and the right
bound included — not the `[start, end)` convention of the tables `util.epochs` returns. -/
theorem epochs_contain_iff (e : List (Int × Int)) (t : Int) (h : ∀ p ∈ e, p.1 ≤ p.2) :
    contain1 e t = true ↔ ∃ p ∈ e, p.1 < t ∧ t ≤ p.2 := by
  have hz : e.countP (fun p => decide (t ≤ p.1) && decide (p.2 < t)) = 0 := by
    rw [List.countP_eq_zero]
    intro p hp
    have := h p hp
    simp only [Bool.and_eq_true, decide_eq_true_eq]
    omega
  rw [contain1_eq_overlap1, overlap1_iff_count, hz, Nat.ne_zero_iff_zero_lt, List.countP_pos_iff]
  simp only [Bool.and_eq_true, decide_eq_true_eq]

theorem epochs_contain_array (e : List (Int × Int)) (ts : List Int) (h : ∀ p ∈ e, p.1 ≤ p.2) :
    (epochsContain e ts).length = ts.length ∧
    ∀ (k : Nat) (hk : k < ts.length) (hk' : k < (epochsContain e ts).length),
      ((epochsContain e ts)[k] = true ↔ ∃ p ∈ e, p.1 < ts[k] ∧ ts[k] ≤ p.2) := by
  refine ⟨by simp [epochsContain], ?_⟩
  intro k hk hk'
  simp only [epochsContain, List.getElem_map]
  exact epochs_contain_iff e ts[k] h

example : epochsContain [(1, 3), (5, 8)] [0, 1, 2, 3, 4, 5, 6, 7, 8, 9]
    = [false, false, true, true, false, false, true, true, true, false] := by decide +kernel
/-- against the half-open reading: the first sample of an epoch is reported outside, the first sample after it inside. -/
example : contain1 [(1, 3)] 1 = false ∧ contain1 [(1, 3)] 3 = true := by decide +kernel
/-- the hypothesis `start ≤ end` is needed: a reversed row makes a time "contained" that no row contains. -/
example : contain1 [(5, 1)] 3 = true ∧ ¬ ∃ p ∈ [((5 : Int), (1 : Int))], p.1 < 3 ∧ 3 ≤ p.2 := by
  refine ⟨by decide, ?_⟩
  rintro ⟨p, hp, h1, h2⟩
  simp at hp
  subst hp
  omega

/-- On the table `util.epochs(x)` returns, `epochs_contain(·, t)` answers for sample `t - 1`, not `t`. -/
theorem epochs_contain_runs_shifted (x : List Bool) (t : Nat) :
    contain1 ((maximalRuns x).map (fun p => ((p.1 : Int), (p.2 : Int)))) (t : Int) = true
      ↔ 1 ≤ t ∧ x[t - 1]? = some true := by
  rw [epochs_contain_iff]
  · constructor
    · rintro ⟨p, hp, h1, h2⟩
      obtain ⟨q, hq, rfl⟩ := List.mem_map.mp hp
      have hs := maximalRuns_sound x q hq
      simp only at h1 h2
      refine ⟨by omega, hs.2.2.1 (t - 1) (by omega) (by omega)⟩
    · rintro ⟨h1, hx⟩
      obtain ⟨q, hq, h3, h4⟩ := maximalRuns_complete x (t - 1) hx
      exact ⟨((q.1 : Int), (q.2 : Int)), List.mem_map.mpr ⟨q, hq, rfl⟩, by simp only; omega, by simp only; omega⟩
  · exact fun p hp => Int.le_of_lt ((maximalRuns_sortedDisjoint x).1 p hp)

example : maximalRuns [false, true, true, false] = [(1, 3)] ∧
    contain1 [(1, 3)] 1 = false ∧ [false, true, true, false][1]? = some true := by decide +kernel

/-- `util.epochs_overlap(a, b)` for one row `q` of `b`, `a` with both columns non-decreasing: True iff `q` lies inside
an epoch of `a` that starts strictly earlier, or an epoch of `a` lies inside `q` and ends strictly earlier.  Partial
overlaps, and a `q` that starts exactly where the epoch containing it starts, give False. -/
theorem epochs_overlap_iff (a : List (Int × Int)) (q : Int × Int)
    (hs : a.Pairwise (fun p r => p.1 ≤ r.1 ∧ p.2 ≤ r.2)) :
    overlap1 a q = true ↔
      (∃ p ∈ a, p.1 < q.1 ∧ q.2 ≤ p.2) ∨ (∃ p ∈ a, q.1 ≤ p.1 ∧ p.2 < q.2) := by
  have hA := @List.countP_pos_iff _ a (fun p => decide (p.1 < q.1) && decide (q.2 ≤ p.2))
  have hB := @List.countP_pos_iff _ a (fun p => decide (q.1 ≤ p.1) && decide (p.2 < q.2))
  simp only [Bool.and_eq_true, decide_eq_true_eq] at hA hB
  rw [overlap1_iff_count, ← hA, ← hB]
  -- the two counts cannot both be positive on sorted columns
  have hex : ¬ (0 < a.countP (fun p => decide (p.1 < q.1) && decide (q.2 ≤ p.2)) ∧
                0 < a.countP (fun p => decide (q.1 ≤ p.1) && decide (p.2 < q.2))) := by
    rw [hA, hB]
    rintro ⟨⟨p, hp, h1, h2⟩, ⟨r, hr, h3, h4⟩⟩
    rcases pairwise_mem_cases hs hp hr with rfl | h | h <;> omega
  omega

theorem epochs_overlap_array (a b : List (Int × Int))
    (hs : a.Pairwise (fun p r => p.1 ≤ r.1 ∧ p.2 ≤ r.2)) :
    (epochsOverlap a b).length = b.length ∧
    ∀ (k : Nat) (hk : k < b.length) (hk' : k < (epochsOverlap a b).length),
      ((epochsOverlap a b)[k] = true ↔
        (∃ p ∈ a, p.1 < b[k].1 ∧ b[k].2 ≤ p.2) ∨ (∃ p ∈ a, b[k].1 ≤ p.1 ∧ p.2 < b[k].2)) := by
  refine ⟨by simp [epochsOverlap], ?_⟩
  intro k hk hk'
  simp only [epochsOverlap, List.getElem_map]
  exact epochs_overlap_iff a b[k] hs

example : [((1 : Int), (3 : Int)), (5, 8)].Pairwise (fun p r => p.1 ≤ r.1 ∧ p.2 ≤ r.2) := by decide +kernel
example : epochsOverlap [(1, 3), (5, 8)] [(0, 1), (1, 2), (2, 4), (3, 5), (4, 9), (0, 9), (2, 3), (1, 3)]
    = [false, false, false, false, true, true, true, false] := by decide +kernel
/-- against the docstring ("True where `b` falls within boundaries of epoch in `a`"): an epoch is not reported inside
itself, nor a prefix of it, nor a partial overlap; an interval that merely contains an epoch is. -/
example : overlap1 [(1, 3)] (1, 3) = false ∧ overlap1 [(1, 3)] (1, 2) = false ∧
    overlap1 [(1, 3)] (2, 4) = false ∧ overlap1 [(1, 3)] (0, 9) = true := by decide +kernel
/-- the sortedness hypothesis is needed: with a nested row the two differences cancel. -/
example : overlap1 [(0, 9), (2, 3)] (1, 5) = false ∧
    (∃ p ∈ [((0 : Int), (9 : Int)), (2, 3)], p.1 < (1 : Int) ∧ (5 : Int) ≤ p.2) := by
  refine ⟨by decide, (0, 9), by simp, by decide, by decide⟩

/-- on a sorted column `np.searchsorted` (side left) returns the number of entries `< t`, the reading used by
`contain1` / `overlap1`. -/
theorem bisectLeft_eq_countLt (col : List Int) (t : Int) (hs : col.Pairwise (· ≤ ·)) :
    bisectLeft col t = countLt col t :=
  bisectGo_eq_countLt col t hs _ 0 col.length (Nat.zero_le _) List.countP_le_length (Nat.le_refl _)
    (by omega)

theorem cols_sorted {a : List (Int × Int)} (hs : a.Pairwise (fun p r => p.1 ≤ r.1 ∧ p.2 ≤ r.2)) :
    ColSorted a :=
  ⟨List.pairwise_map.mpr (hs.imp And.left), List.pairwise_map.mpr (hs.imp And.right)⟩

theorem overlap1B_eq_overlap1 {a : List (Int × Int)}
    (hs : a.Pairwise (fun p r => p.1 ≤ r.1 ∧ p.2 ≤ r.2)) (q : Int × Int) :
    overlap1B a q = overlap1 a q := by
  rw [overlap1B, overlap1, bisectLeft_eq_countLt _ _ (cols_sorted hs).1,
    bisectLeft_eq_countLt _ _ (cols_sorted hs).2]

/-- `epochs_contain_iff` for the binary-search form `contain1B`. -/
theorem epochs_contain_bisect_iff (e : List (Int × Int)) (t : Int)
    (hs : e.Pairwise (fun p r => p.1 ≤ r.1 ∧ p.2 ≤ r.2)) (h : ∀ p ∈ e, p.1 ≤ p.2) :
    contain1B e t = true ↔ ∃ p ∈ e, p.1 < t ∧ t ≤ p.2 := by
  rw [show contain1B e t = contain1 e t from overlap1B_eq_overlap1 hs (t, t)]
  exact epochs_contain_iff e t h

/-- `epochs_overlap_iff` for the binary-search form `overlap1B`. -/
theorem epochs_overlap_bisect_iff (a : List (Int × Int)) (q : Int × Int)
    (hs : a.Pairwise (fun p r => p.1 ≤ r.1 ∧ p.2 ≤ r.2)) :
    overlap1B a q = true ↔
      (∃ p ∈ a, p.1 < q.1 ∧ q.2 ≤ p.2) ∨ (∃ p ∈ a, q.1 ≤ p.1 ∧ p.2 < q.2) := by
  rw [overlap1B_eq_overlap1 hs]
  exact epochs_overlap_iff a q hs

example : ([1, 3, 3, 7] : List Int).Pairwise (· ≤ ·) ∧ bisectLeft [1, 3, 3, 7] 3 = 1 ∧ bisectLeft [1, 3, 3, 7] 4 = 3 ∧
    bisectLeft [1, 3, 3, 7] 8 = 4 := by decide +kernel
example : contain1B [(1, 3), (5, 8)] 6 = true ∧ overlap1B [(1, 3), (5, 8)] (4, 9) = true := by decide +kernel
/-- sortedness is needed: on an unsorted column the search is not the count. -/
example : bisectLeft [7, 7, 8, 7, 8, 1, 1] 6 = 0 ∧ countLt [7, 7, 8, 7, 8, 1, 1] 6 = 2 := by decide +kernel

/-- `util.bin_array(number, bits)` -/
theorem bin_array_length (n w : Int) : (binArray n w).length = w.toNat := by
  simp [binArray]

/-- entry `k` is bit `k` of the two's-complement representation, for either sign. -/
theorem bin_array_bit (n w : Int) (k : Nat) (hk : k < (binArray n w).length) :
    (binArray n w)[k] = if n.testBit k then 1 else 0 := by
  simp only [binArray, List.getElem_map, List.getElem_range]
  exact bitOf_eq_testBit n k

/-- round trip; for a negative number, its two's-complement residue. -/
theorem bin_array_round_trip (n w : Int) : fromBits (binArray n w) = n % 2 ^ w.toNat :=
  fromBits_bitsN n w.toNat

example : binArray 8 4 = [0, 0, 0, 1] ∧ binArray 3 4 = [1, 1, 0, 0] ∧ binArray (-3) 4 = [1, 0, 1, 1] ∧
    binArray 5 (-1) = [] ∧ fromBits (binArray (-3) 4) = 13 := by decide +kernel

/-- `util.int_to_TTL(a, width)`: row `k` holds bit `k` of every entry.  Guard: not (empty Python sequence and
`width > 0`), see `int_to_TTL_empty_sequence_raises`. -/
theorem int_to_TTL_bits_partial (es : Bool) (a : List Int) (w : Int)
    (guard : ¬ (es = true ∧ a = [] ∧ 0 < w)) :
    intToTTL es a w = .ok ((List.range w.toNat).map (fun k => a.map (fun v => v.testBit k))) := by
  unfold intToTTL
  have hg : (es && a.isEmpty && decide (0 < w)) = false := by
    cases es <;> cases a <;> simp_all
  rw [hg]
  simp only [Bool.false_eq_true, if_false, bitOf_beq_one]

/-- round trip per column. -/
theorem int_to_TTL_round_trip_partial (es : Bool) (a : List Int) (w : Int)
    (guard : ¬ (es = true ∧ a = [] ∧ 0 < w)) :
    ∃ rows, intToTTL es a w = .ok rows ∧ rows.length = w.toNat ∧ (∀ r ∈ rows, r.length = a.length) ∧
      ∀ (j : Nat) (hj : j < a.length),
        fromBits (rows.map (fun r => if r[j]? = some true then 1 else 0)) = a[j] % 2 ^ w.toNat := by
  refine ⟨_, int_to_TTL_bits_partial es a w guard, by simp, ?_, ?_⟩
  · intro r hr
    obtain ⟨k, _, rfl⟩ := List.mem_map.mp hr
    simp
  · intro j hj
    rw [← fromBits_bitsN]
    congr 1
    simp only [bitsN, List.map_map]
    apply List.map_congr_left
    intro k _
    simp only [Function.comp, List.getElem?_map, List.getElem?_eq_getElem hj, Option.map_some,
      Option.some.injEq]
    rw [bitOf_eq_testBit]

/-- the excluded input: an empty Python sequence is a float64 array for NumPy, and `a >> bit` raises `TypeError`. -/
theorem int_to_TTL_empty_sequence_raises (w : Int) (hw : 0 < w) :
    intToTTL true [] w = .error .typeError := by
  simp [intToTTL, hw]

example : intToTTL true [4, 8, 5] 6 = .ok [[false, false, true], [false, false, false], [true, false, true],
    [false, true, false], [false, false, false], [false, false, false]] := by decide +kernel
example : ¬ (true = true ∧ ([4, 8, 5] : List Int) = [] ∧ (0 : Int) < 6) := by simp
example : intToTTL true [] 1 = .error .typeError ∧ intToTTL false [] 1 = .ok [[]] ∧ intToTTL true [] 0 = .ok [] := by
  decide +kernel

end Psi.EpochsExt

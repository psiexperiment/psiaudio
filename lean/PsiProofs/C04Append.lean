import PsiProofs.C04
/-!
C04 for histories that also `append` stimuli while the queue runs.

Histories are arbitrary lists over {pop n, pause m, pause(), resume m, resume(), append e}: a stimulus may
be appended at any point — before anything was played, mid-waveform, while paused, after the queue ran
dry. `conservation`, `final_counts` and `removed_once` carry over unchanged; the only extra facts needed
are that an appended stimulus has ≥ 1 sample and starts with `trials = requested_trials` (what `append`
does), and that every logged trial belongs to a stimulus already in the table (`KeysOK`, an invariant).
-/
namespace Psi.Queue

inductive OpA
  | op (o : Op)
  | append (e : Entry)

def stepOpA (s : QState) : OpA → Except Err QState
  | .op o => stepOp s o
  | .append e => .ok (append s e).1

def runOpsA : List OpA → QState → Except Err QState
  | [], s => .ok s
  | op :: ops, s =>
    match stepOpA s op with
    | .error e => .error e
    | .ok s' => runOpsA ops s'

/-- what `append(source, trials, …)` stores: a non-empty waveform, the counter at its requested value -/
def NewEntry (e : Entry) : Prop := 0 < e.len ∧ e.trials = e.requested

def KeysOK (s : QState) : Prop := ∀ i ∈ s.generated, i.key < s.data.length

theorem KeysOK_nextTrial {s s1 : QState} (hi : KeysOK s) (hn : nextTrial s = .ok (some s1)) : KeysOK s1 := by
  obtain ⟨key, sa, sb, e, d, hk, hd, he, _, _, rfl⟩ := nextTrial_some hn
  have f1 := nextKey_frame hk
  have f2 := decrementKey_frame hd
  have hg : sb.generated = s.generated := by rw [f2]; simp only; rw [f1]
  have hl : sb.data.length = s.data.length := by
    rw [f2]; simp only [setTrials, List.length_modify]; rw [f1]
  intro i hi'
  simp only [List.length_modify, List.mem_append, List.mem_singleton, hg] at hi' ⊢
  rcases hi' with h' | rfl
  · rw [hl]; exact hi i h'
  · exact (List.getElem?_eq_some_iff.mp he).1

theorem KeysOK_tick {s s' : QState} {c : Cell} (hi : KeysOK s) (h : tick s = .ok (c, s')) : KeysOK s' :=
  tickD_preserves (d := true) (fun hb hi => by rw [hb]; exact hi) KeysOK_nextTrial hi h

theorem KeysOK_pause (m : Option Int) {s : QState} (hi : KeysOK s) : KeysOK (pause m s).1 := by
  cases m with
  | none => exact hi
  | some m =>
    obtain ⟨hd, hg, _⟩ := pause_fields m s
    intro i hi'
    rw [hg] at hi'
    rw [hd, foldl_setTrials_length]
    exact hi i (List.mem_filter.mp hi').1

theorem KeysOK_resume (m : Option Int) {s : QState} (hi : KeysOK s) : KeysOK (resume m s) := by
  cases m <;> exact hi

theorem GoodK_step {s s' : QState} {op : OpA} (hg : Good s) (hk : KeysOK s)
    (hnew : ∀ e, op = .append e → NewEntry e) (h : stepOpA s op = .ok s') : Good s' ∧ KeysOK s' := by
  cases op with
  | op o => exact ⟨Good_step hg h, stepOp_preserves KeysOK_tick KeysOK_pause KeysOK_resume hg.wf hk h⟩
  | append e =>
    cases h
    have he := hnew e rfl
    have hget : ∀ (i : Nat) (e' : Entry), (append s e).1.data[i]? = some e' →
        s.data[i]? = some e' ∨ (i = s.data.length ∧ e' = e) := by
      intro i e' hi
      rw [show (append s e).1.data = s.data ++ [e] from rfl, List.getElem?_append] at hi
      split at hi
      · exact .inl hi
      · rename_i hlt
        obtain ⟨h1, h2⟩ := List.getElem?_eq_some_iff.1 hi
        have h0 : i - s.data.length = 0 := Nat.lt_one_iff.1 h1
        exact .inr ⟨Nat.le_antisymm (Nat.le_of_sub_eq_zero h0) (Nat.not_lt.1 hlt), by simpa [h0] using h2.symm⟩
    refine ⟨⟨⟨?_, hg.wf.src⟩, ?_, Once_of_same (s := s) hg.once rfl rfl rfl⟩, ?_⟩
    · intro i e' hi
      rcases hget i e' hi with h0 | ⟨_, rfl⟩
      · exact hg.wf.data i e' h0
      · exact he.1
    · intro key e' hi
      rw [show keptOf (append s e).1 key = keptOf s key from rfl]
      rcases hget key e' hi with h0 | ⟨hkey, rfl⟩
      · exact hg.cons key e' h0
      · -- no logged trial belongs to the key just created
        have : s.generated.filter (fun i => i.key == key) = [] := by
          rw [List.filter_eq_nil_iff]
          intro i hi'
          simp only [beq_iff_eq]
          exact fun h => Nat.lt_irrefl _ (hkey ▸ h ▸ hk i hi')
        rw [keptOf, this, he.2]
        exact Int.zero_add _
    · intro i hi'
      exact Nat.lt_of_lt_of_le (hk i hi') (by simp [append])

theorem GoodK_run {ops : List OpA} {s s' : QState} (hg : Good s) (hk : KeysOK s)
    (hnew : ∀ e, OpA.append e ∈ ops → NewEntry e) (h : runOpsA ops s = .ok s') : Good s' ∧ KeysOK s' := by
  induction ops generalizing s with
  | nil => cases h; exact ⟨hg, hk⟩
  | cons op ops ih =>
    rw [runOpsA] at h
    split at h
    · cases h
    · rename_i s1 hs
      obtain ⟨g1, k1⟩ := GoodK_step hg hk (fun e he => hnew e (he ▸ List.mem_cons_self)) hs
      exact ih g1 k1 (fun e he => hnew e (List.mem_cons_of_mem _ he)) h

theorem KeysOK_init {s : QState} (hg : s.generated = []) : KeysOK s := by
  intro i hi; rw [hg] at hi; simp at hi

/-- `conservation` for histories that also append stimuli at arbitrary points, for every stimulus in the
table (appended before or during the run). -/
theorem conservation_append {ops : List OpA} {s s' : QState} (hg : Good s) (h0 : s.generated = [])
    (hnew : ∀ e, OpA.append e ∈ ops → NewEntry e) (h : runOpsA ops s = .ok s')
    (key : Nat) (e : Entry) (he : s'.data[key]? = some e) :
    keptOf s' key + e.trials = e.requested :=
  (GoodK_run hg (KeysOK_init h0) hnew h).1.cons key e he

/-- `final_counts` with late appends. -/
theorem final_counts_append {ops : List OpA} {s s' : QState} (hg : Good s) (h0 : s.generated = [])
    (hnew : ∀ e, OpA.append e ∈ ops → NewEntry e) (h : runOpsA ops s = .ok s')
    (key : Nat) (e : Entry) (he : s'.data[key]? = some e) :
    (e.trials = 0 → keptOf s' key = e.requested) ∧ (e.trials ≤ 0 → keptOf s' key ≥ e.requested) :=
  counts_of_conservation (conservation_append hg h0 hnew h key e he)

/-- `removed_once` with late appends; and every logged trial belongs to a stimulus of the table. -/
theorem removed_once_append {ops : List OpA} {s s' : QState} (hg : Good s) (h0 : s.generated = [])
    (hnew : ∀ e, OpA.append e ∈ ops → NewEntry e) (h : runOpsA ops s = .ok s') :
    (s'.generated.map (·.uid) ++ s'.removed).Perm (List.range s'.added.length) ∧
    s'.removed.Nodup ∧ (∀ i ∈ s'.generated, i.key < s'.data.length) := by
  obtain ⟨g, k⟩ := GoodK_run hg (KeysOK_init h0) hnew h
  exact ⟨g.once, (Once_nodup g.once).1, k⟩

theorem runOpsA_op (ops : List Op) (s : QState) : runOpsA (ops.map OpA.op) s = runOps ops s := by
  induction ops generalizing s with
  | nil => rfl
  | cons o ops ih =>
    simp only [List.map_cons, runOpsA, runOps, stepOpA]
    cases stepOp s o with
    | error e => rfl
    | ok s1 => exact ih s1

example : NewEntry ⟨4, true, 2, 2, [1], 0, 4⟩ := ⟨by decide, rfl⟩

/-- interleaved queue with one stimulus (3 trials); a second stimulus (2 trials) is appended mid-waveform,
the queue is paused at 12 (two trials cancelled), a third (1 trial) is appended while paused; after the
drain the counters are 0, 0, −1 (the round-robin keeps completed stimuli, the last one is presented twice)
and kept + trials = requested for all three -/
example : (runOpsA [.op (.pop 5), .append ⟨4, true, 2, 2, [1], 0, 4⟩, .op (.pop 20), .op (.pause (some 12)),
      .append ⟨2, false, 1, 1, [0], 0, 2⟩, .op (.resume (some 30)), .op (.pop 80)]
    (append { kind := .interleaved } ⟨10, false, 3, 3, [5], 0, 10⟩).1).toOption.map
    (fun s => (s.data.map (·.trials), [keptOf s 0, keptOf s 1, keptOf s 2], s.removed.length)) =
    some ([0, 0, -1], [3, 2, 2], 2) := by decide +kernel

end Psi.Queue

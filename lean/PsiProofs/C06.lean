import PsiProofs.Helper.C06_Rounding
import PsiProofs.Helper.C06_NoPause
import PsiProofs.Helper.C06_Deque
import Mathlib.Data.Nat.Pairing
/-!
# C06 — end to end, every presented trial is recovered sample-exactly

`seconds_samples_roundtrip*`: the one place where queue and extractor talk in seconds.  The queue
publishes `t0 = fl(T + fl(k/fs))` from its integer sample clock `k` (queue.py `next_trial`), the
extractor computes `round(fl(fl(t0 − p)·fs))` (pipeline.py `extract_epochs`).  `fl` is the standard
model `|fl x − x| ≤ u|x|`: IEEE conformance of the platform is assumed, not proved; no
overflow/underflow; exact half-sample ties and a band of `6u·(T·fs + k + p·fs)` around them are
excluded.

`e2e_kept`, `e2e_cancelled`: the discrete composition over an abstract queue whose hypotheses are
what C02 `waveform_embedded`, `uncovered_zero` and C04 `pause_cancels_exactly` provide; the
conclusions come from C05.

`e2e_composed_*`: the same about the concrete composition queue model ∘ playback device ∘ extractor
model (`jrun`, Helper/C06_Compose.lean), for every joint history.  They do not pass through
`e2e_kept`/`e2e_cancelled`, whose `Valid` demands distinct keys: a queue paused exactly on a
trial's start and resumed presents the same stimulus at the same `t0` again.  Instead the run keeps
the per-key discipline `ValidSeq` of C05 (per key the notifications alternate
`added, removed, added, …`).  The link `s = K − P` is built into `reqOf` and discharged by
`reqOf_start_roundtrip`.
-/
namespace Psi.C06
open Psi.Rounding Psi.Extract

/-- The sample position the extractor computes from the published `t0` is the integer the queue
meant, whenever the exact position is farther than `6u·(T + k/fs + p)·fs` from a half-sample tie.
The first conjunct makes the tie-breaking rule (Python's half-even) irrelevant. -/
theorem seconds_samples_roundtrip {u : ℝ} {fl : ℝ → ℝ} (hu0 : 0 ≤ u) (hu1 : u ≤ 1 / 100) (hfl : IsFl u fl)
    (T fs p : ℝ) (k : ℕ) (hfs : 0 < fs) (hT : 0 ≤ T) (hp : 0 ≤ p) (n : ℤ)
    (hclose : |(T + (k : ℝ) / fs - p) * fs - n| + 6 * u * ((T + (k : ℝ) / fs + p) * fs) < 1 / 2) :
    |extractorArg fl T fs p k - n| < 1 / 2 ∧ round (extractorArg fl T fs p k) = n := by
  have h1 : |extractorArg fl T fs p k - n| < 1 / 2 :=
    calc |extractorArg fl T fs p k - n|
        ≤ |extractorArg fl T fs p k - (T + (k : ℝ) / fs - p) * fs| + |(T + (k : ℝ) / fs - p) * fs - n| :=
          abs_sub_le _ _ _
      _ ≤ 6 * u * ((T + (k : ℝ) / fs + p) * fs) + |(T + (k : ℝ) / fs - p) * fs - n| :=
          add_le_add_left (extractorArg_error hu0 hu1 hfl T fs p k hfs hT hp) _
      _ < 1 / 2 := by rw [add_comm]; exact hclose
  exact ⟨h1, round_eq_of_close _ _ h1⟩

/-- Queue start and pre-stimulus time on the sample grid: the extractor recovers `K₀ + k − P`. -/
theorem seconds_samples_roundtrip_grid {u : ℝ} {fl : ℝ → ℝ} (hu0 : 0 ≤ u) (hu1 : u ≤ 1 / 100)
    (hfl : IsFl u fl) (T fs p : ℝ) (k K0 P : ℕ) (hfs : 0 < fs)
    (hT : T * fs = K0) (hp : p * fs = P)
    (hsmall : 6 * u * ((K0 : ℝ) + k + P) < 1 / 2) :
    round (extractorArg fl T fs p k) = (K0 : ℤ) + k - P := by
  have hT0 : 0 ≤ T := nonneg_of_mul_nonneg_left (by rw [hT]; exact K0.cast_nonneg) hfs
  have hp0 : 0 ≤ p := nonneg_of_mul_nonneg_left (by rw [hp]; exact P.cast_nonneg) hfs
  have hk : (k : ℝ) / fs * fs = k := div_mul_cancel₀ _ hfs.ne'
  refine (seconds_samples_roundtrip hu0 hu1 hfl T fs p k hfs hT0 hp0 ((K0 : ℤ) + k - P) ?_).2
  rw [sub_mul, add_mul, add_mul, add_mul, hT, hp, hk]
  have : ((K0 : ℝ) + k - P) - (((K0 : ℤ) + (k : ℤ) - (P : ℤ) : ℤ) : ℝ) = 0 := by push_cast; exact sub_self _
  rw [this, abs_zero, zero_add]
  exact hsmall

/-- binary64 (`u = 2⁻⁵³`): every position up to `2⁴⁹` samples (about 91 years at 195 312.5 Hz) is
recovered exactly. -/
theorem seconds_samples_roundtrip_binary64 {fl : ℝ → ℝ} (hfl : IsFl ((2 : ℝ) ^ (-53 : ℤ)) fl)
    (T fs p : ℝ) (k K0 P : ℕ) (hfs : 0 < fs) (hT : T * fs = K0) (hp : p * fs = P)
    (hsmall : K0 + k + P ≤ 2 ^ 49) :
    round (extractorArg fl T fs p k) = (K0 : ℤ) + k - P := by
  have hu : (2 : ℝ) ^ (-53 : ℤ) = 1 / 2 ^ 53 := by rw [zpow_neg, one_div]; norm_cast
  rw [hu] at hfl
  refine seconds_samples_roundtrip_grid (by norm_num) (by norm_num) hfl T fs p k K0 P hfs hT hp ?_
  have hs : ((K0 : ℝ) + k + P) ≤ 2 ^ 49 := by exact_mod_cast hsmall
  calc 6 * (1 / 2 ^ 53) * ((K0 : ℝ) + k + P) ≤ 6 * (1 / 2 ^ 53) * 2 ^ 49 :=
        mul_le_mul_of_nonneg_left hs (by norm_num)
    _ < 1 / 2 := by norm_num

/-- non-vacuity of the binary64 form, with `fl = id` -/
example : round (extractorArg (fun x => x) (5 / 97656.25) 97656.25 (3 / 97656.25) 1000000) = 1000002 := by
  have h : (97656.25 : ℝ) ≠ 0 := by norm_num
  exact seconds_samples_roundtrip_binary64 (isFl_id (by positivity)) (5 / 97656.25) 97656.25 (3 / 97656.25)
    1000000 5 3 (by norm_num) ((div_mul_cancel₀ _ h).trans Nat.cast_ofNat.symm)
    ((div_mul_cancel₀ _ h).trans Nat.cast_ofNat.symm) (by norm_num)

/-- the request the extractor derives from the queue's `added` notification (`s = K − P`, `len = L`),
and the source waveform -/
structure Trial (α : Type) where
  req : Request
  wave : List α

/-- what C02 `waveform_embedded` + `uncovered_zero` say about a kept trial on the played stream when
`L − P ≤ len + delay`: from its first sample `s + P` the waveform, then silence to the epoch's end -/
def Embedded {α} (zero : α) (stream : List α) (P : Nat) (t : Trial α) : Prop :=
  slice stream (t.req.s.toNat + P) (t.req.len - P) =
    t.wave ++ List.replicate (t.req.len - P - t.wave.length) zero

/-- Kept trial, abstract queue.  A trial that is not cancelled before the acquired stream reaches
its last sample (C04) and whose waveform then silence the stream holds (C02) gets exactly one epoch;
after the `P` pre-stimulus samples it is bit-for-bit the waveform followed by silence. -/
theorem e2e_kept {α} (zero : α) (B L P : Nat) (pre mid post : List (Op α)) (opj : Op α) (t : Trial α)
    (hv : Valid B L (pre ++ (opj :: mid) ++ post)) (hr : t.req ∈ opj.reqs)
    (hnorem : ∀ o ∈ opj :: mid, t.req.key ∉ o.rems)
    (hend : t.req.s.toNat + t.req.len ≤ total pre + total (opj :: mid))
    (hemb : Embedded zero (streamOf (pre ++ (opj :: mid) ++ post)) P t) :
    ∃ e : Epoch α, (deliveries B (pre ++ (opj :: mid) ++ post) t.req.key).flatten = [e] ∧
      e.req = t.req ∧ e.missed = false ∧
      e.data.drop P = t.wave ++ List.replicate (t.req.len - P - t.wave.length) zero := by
  refine ⟨epochOf (streamOf (pre ++ (opj :: mid) ++ post)) t.req,
    delivered_exact B L pre mid post opj t.req hv hr hnorem hend, rfl, rfl, ?_⟩
  simp only [epochOf]
  rw [slice_drop]
  exact hemb

/-- Cancelled trial, abstract queue.  If the removal is seen before the acquired stream reaches
the epoch's last sample, no epoch is ever delivered for the trial.  `hearly` is what truncating the
played stream at the pause position gives when the epoch covers the stimulus (C04
`pause_cancels_exactly`: the trial ends after the pause position). -/
theorem e2e_cancelled {α} (B L : Nat) (pre seg post : List (Op α)) (opi : Op α) (t : Trial α)
    (hv : Valid B L (pre ++ (seg ++ opi :: post)))
    (hr : ∃ op0 tl, seg ++ [opi] = op0 :: tl ∧ t.req ∈ op0.reqs)
    (hrem : t.req.key ∈ opi.rems)
    (hearly : seg = [] ∨ total pre + total seg < t.req.s.toNat + t.req.len) :
    (deliveries B (pre ++ (seg ++ opi :: post)) t.req.key).flatten = [] :=
  removed_never_delivered B L pre seg post opi t.req hv hr hrem hearly

/-- non-vacuity of `e2e_kept`: two-call history, waveform [7, 8] at sample 1, epoch length 3 -/
example : ∃ e : Epoch Nat,
    (deliveries 0 [⟨[0, 7], [⟨1, 1, 3, 0⟩], [], false⟩, ⟨[8, 0, 0], [], [], true⟩] 1).flatten = [e] ∧
      e.data.drop 0 = [7, 8] ++ List.replicate 1 0 := by
  obtain ⟨e, h1, _, _, h4⟩ := e2e_kept (α := Nat) 0 0 3 0 [] [⟨[8, 0, 0], [], [], true⟩] []
    ⟨[0, 7], [⟨1, 1, 3, 0⟩], [], false⟩ ⟨⟨1, 1, 3, 0⟩, [7, 8]⟩
    (by refine ⟨⟨by decide, by decide, by decide, by decide⟩, ⟨by decide, by decide, by decide, by decide⟩, trivial⟩)
    (by decide) (by decide) (by decide) (by unfold Embedded; decide)
  exact ⟨e, h1, h4⟩

open Psi.E2E Psi.Queue

/-- The start sample `reqOf` gives a request (`s = K0 + k − P`) is the integer the extractor's own
`round((t0 − prestim)·fs)` computes from the `t0` the queue publishes for a trial notified at queue
sample `k`, in the standard model of binary64 arithmetic. -/
theorem reqOf_start_roundtrip {fl : ℝ → ℝ} (hfl : IsFl ((2 : ℝ) ^ (-53 : ℤ)) fl) (T fs p : ℝ) (c : Cfg)
    (i : Info) (k : ℕ) (hk : i.k = (k : ℤ)) (hfs : 0 < fs) (hT : T * fs = c.K0) (hp : p * fs = c.P)
    (hsmall : c.K0 + k + c.P ≤ 2 ^ 49) :
    round (extractorArg fl T fs p k) = (reqOf c i).s := by
  rw [seconds_samples_roundtrip_binary64 hfl T fs p k c.K0 c.P hfs hT hp hsmall]
  simp only [reqOf, hk]

/-- Every notified trial is either still logged (kept) or was cancelled, never both (C04
`removed_once`, through its invariant `Once`). -/
theorem kept_or_cancelled (c : Cfg) (evs : List Ev) (q0 : QState) (J : JState) (hstart : Start q0)
    (hrun : jrun c evs (JState.init c q0) = .ok J) (henc : EncInj c)
    (hside : SideOK c J.q.added) (i : Info) (hi : i ∈ J.q.added) :
    (i ∈ J.q.generated ∧ i.uid ∉ J.q.removed) ∨ (i.uid ∈ J.q.removed ∧ i ∉ J.q.generated) := by
  have inv := JInv_run c henc evs (JInv_init c q0 hstart) hrun (fun _ => hside)
  have hex := (Once_nodup inv.q.once).2.2.1
  by_cases hu : i.uid ∈ J.q.removed
  · exact Or.inr ⟨hu, fun hg => hex _ hu (List.mem_map.2 ⟨i, hg, rfl⟩)⟩
  · exact Or.inl ⟨logged_of_not_removed inv.q hi hu, hu⟩

/-- Kept trial, concrete composition, any joint history.  A trial the queue still logs at the end
(not cancelled), whose `added` notification has been handed to the extractor and whose epoch the
acquired stream has reached, gets exactly one epoch under its key, even when cancelled trials had
the same `(t0, key)` before it.  After the `P` pre-stimulus samples the epoch is the stimulus
waveform, sample for sample, and every later sample is silence or a sample of a trial that starts
after the waveform.  Side conditions `len ≤ dur ≤ L − P` (`hside`) are read off the queue's own
log; there is none on the dictionary keys. -/
theorem e2e_composed_kept (c : Cfg) (evs : List Ev) (q0 : QState) (J : JState)
    (hstart : Start q0) (hrun : jrun c evs (JState.init c q0) = .ok J) (henc : EncInj c)
    (hside : SideOK c J.q.added)
    (i : Info) (hi : i ∈ J.q.generated) (hseen : Note.add i ∉ J.pend)
    (hreached : (c.K0 : Int) + i.k - (c.P : Int) + (c.L : Int) ≤ (J.acq : Int)) :
    ∃ e : Extract.Epoch Cell, (deliveries c.B J.eops (reqOf c i).key).flatten = [e] ∧
      e.req = reqOf c i ∧ e.missed = false ∧ e.data.length = c.L ∧
      (∀ j, j < i.len → e.data[c.P + j]? = some (Cell.W i.key j)) ∧
      (∀ j, i.len ≤ j → c.P + j < c.L → e.data[c.P + j]? = some Cell.Z ∨
        ∃ i' ∈ J.q.added, i.k + (i.len : Int) ≤ i'.k ∧ ∃ j' : Nat, j' < i'.len ∧
          i'.k + (j' : Int) = i.k + (j : Int) ∧ e.data[c.P + j]? = some (Cell.W i'.key j')) := by
  have inv := JInv_run c henc evs (JInv_init c q0 hstart) hrun (fun _ => hside)
  obtain ⟨hdel, hlen, hview⟩ := kept_epoch c inv i hi hseen hreached
  have hside_i := hside i (inv.q.emb.gensub i hi)
  refine ⟨_, hdel, rfl, rfl, hlen, ?_, ?_⟩
  · intro j hj
    obtain ⟨p, hp, _, hv⟩ := hview j (by omega)
    rw [hv]
    exact inv.q.emb.kept i hi j hj p hp
  · intro j hj hjL
    obtain ⟨p, hp, hin, hv⟩ := hview j hjL
    rw [hv]
    rcases inv.q.emb.after i hi p (by rw [hp]; exact Int.add_le_add_left (Int.ofNat_le.2 hj) _)
      (by rw [List.length_append]; exact Nat.lt_of_lt_of_le hin (Nat.le_add_right _ _)) with h | h
    · exact Or.inl h
    · obtain ⟨i', hi', j', h1, h2, h3, h4⟩ := h
      exact Or.inr ⟨i', hi', by omega, j', h1, by omega, h4⟩

/-- Under any dictionary key only kept trials yield epochs: what the extractor has delivered under
`κ` is at most the one epoch `e2e_composed_kept` owes a trial that the queue still logs.  Cancelled
trials account for nothing, however often the key was re-used. -/
theorem e2e_composed_only_kept (c : Cfg) (evs : List Ev) (q0 : QState) (J : JState)
    (hstart : Start q0) (hrun : jrun c evs (JState.init c q0) = .ok J) (henc : EncInj c)
    (hside : SideOK c J.q.added) (κ : Nat) :
    (deliveries c.B J.eops κ).flatten = [] ∨
    ∃ i' ∈ J.q.generated, i'.uid ∉ J.q.removed ∧ (reqOf c i').key = κ ∧
      (reqOf c i').s.toNat + c.L ≤ J.acq ∧
      (deliveries c.B J.eops κ).flatten = [epochOf (streamOf J.eops) (reqOf c i')] := by
  have inv := JInv_run c henc evs (JInv_init c q0 hstart) hrun (fun _ => hside)
  obtain ⟨seen, g⟩ := inv.g
  rw [deliveries_key c inv g κ]
  cases ho : altEnd none (onKey c κ seen) with
  | none => left; rfl
  | some i' =>
    by_cases hd : doneAt (reqOf c i') J.acq = true
    · right
      obtain ⟨h1, h2⟩ := outstanding_added g (fun _ hn => List.mem_append_left _ hn) ho
      have hdone : (reqOf c i').s.toNat + c.L ≤ J.acq := by simpa [doneAt, reqOf] using hd
      -- its removal is neither pending (it would have come too late) nor seen: it is still logged
      have halt := g.alt κ
      rw [onKey_append, AltM_append, ho] at halt
      have hpk : onKey c κ J.pend = [] := by
        by_contra hne
        have := (inv.n.remsPend i' (mem_onKey.1 (AltM_rem_mem halt.2 hne)).1).2.2
        omega
      have hlast : altEnd none (onKey c κ (seen ++ J.pend)) = some i' := by
        rw [onKey_append, altEnd_append, ho, hpk]; rfl
      have hu := g.last κ i' hlast
      exact ⟨i', logged_of_not_removed inv.q h1 hu, hu, h2, hdone, by simp [Option.filter, hd]⟩
    · left
      have : doneAt (reqOf c i') J.acq = false := by simpa using hd
      simp [Option.filter, this]

/-- Cancelled trial, concrete composition.  A notified trial that the queue has cancelled never
yields an epoch, whether or not its notifications have reached the extractor: under its key nothing
is delivered, or exactly the one epoch owed to a kept trial `i' ≠ i` presented at the same start
sample with the same stimulus after `i` was cancelled. -/
theorem e2e_composed_cancelled (c : Cfg) (evs : List Ev) (q0 : QState) (J : JState)
    (hstart : Start q0) (hrun : jrun c evs (JState.init c q0) = .ok J) (henc : EncInj c)
    (hside : SideOK c J.q.added)
    (i : Info) (_hi : i ∈ J.q.added) (hc : i.uid ∈ J.q.removed) :
    ((deliveries c.B J.eops (reqOf c i).key).flatten = [] ∨
      ∃ i' ∈ J.q.generated, i'.uid ∉ J.q.removed ∧ i' ≠ i ∧ i'.k = i.k ∧ i'.key = i.key ∧
        (deliveries c.B J.eops (reqOf c i).key).flatten = [epochOf (streamOf J.eops) (reqOf c i')]) ∧
    ((∀ i' ∈ J.q.generated, ¬ (i'.k = i.k ∧ i'.key = i.key)) →
      (deliveries c.B J.eops (reqOf c i).key).flatten = []) := by
  have key := e2e_composed_only_kept c evs q0 J hstart hrun henc hside (reqOf c i).key
  have hsame : ∀ i', (reqOf c i').key = (reqOf c i).key → i'.k = i.k ∧ i'.key = i.key :=
    fun i' h => henc _ _ _ _ h
  constructor
  · rcases key with h | ⟨i', hg, hu, hk, _, hdel⟩
    · exact Or.inl h
    · obtain ⟨h1, h2⟩ := hsame i' hk
      exact Or.inr ⟨i', hg, hu, fun he => hu (he ▸ hc), h1, h2, hdel⟩
  · intro hnone
    rcases key with h | ⟨i', hg, _, hk, _, _⟩
    · exact h
    · exact absurd (hsame i' hk) (hnone i' hg)

/-- The extractor never raises in a composed run, in particular never the
`ValueError('Duplicate epochs not supported')` of a key re-used before its removal was seen: the
queue presents a (start, stimulus) again only after cancelling the earlier trial, and the
notifications reach the extractor in issue order.  Every epoch handed on has length `L` and is
`stream[s, s+L)` of the request it carries. -/
theorem e2e_composed_never_raises (c : Cfg) (evs : List Ev) (q0 : QState) (J : JState)
    (hstart : Start q0) (hrun : jrun c evs (JState.init c q0) = .ok J) (henc : EncInj c)
    (hside : SideOK c J.q.added) :
    ∀ out ∈ (Extract.run (State.init c.B) J.eops).2, ∃ batch fired, out = .ok batch fired ∧
      ∀ e ∈ batch, e = epochOf (streamOf J.eops) e.req ∧ e.req ∈ allReqs J.eops ∧ e.data.length = c.L :=
  metadata_paired_seq c.B c.L J.eops
    (JInv_run c henc evs (JInv_init c q0 hstart) hrun (fun _ => hside)).n.valid

/-- no `pause(t)`; `pause()`, `resume()`, `resume(t)` are allowed -/
def NoPause (evs : List Ev) : Prop := ∀ ev ∈ evs, isPause ev = false

/-- Histories without `pause(t)`.  Every notified trial whose notification has been handed to the
extractor and whose epoch the acquired stream has reached yields exactly one epoch; after the `P`
pre-stimulus samples it is the stimulus waveform followed by zeros, under the property's own side
conditions for that trial: the epoch covers the stimulus (`len + P ≤ L`) and ends before the next
trial (`L − P ≤ len + delay`).  The rest of the epoch is silence because nothing is cancelled and
the whole inter-trial gap of every trial stays on the timeline (`NPInv`). -/
theorem e2e_composed_nopause (c : Cfg) (evs : List Ev) (q0 : QState) (J : JState)
    (hstart : Start q0) (hrun : jrun c evs (JState.init c q0) = .ok J) (henc : EncInj c)
    (hnp : NoPause evs) (i : Info) (hi : i ∈ J.q.added) (hseen : Note.add i ∉ J.pend)
    (hcover : i.len + c.P ≤ c.L) (hnext : c.L ≤ c.P + i.len + i.delay.toNat)
    (hreached : (c.K0 : Int) + i.k - (c.P : Int) + (c.L : Int) ≤ (J.acq : Int)) :
    J.q.removed = [] ∧
    ∃ e : Extract.Epoch Cell, (deliveries c.B J.eops (reqOf c i).key).flatten = [e] ∧
      e.req = reqOf c i ∧ e.missed = false ∧
      e.data.drop c.P = wave i.key 0 i.len ++ List.replicate (c.L - c.P - i.len) Cell.Z := by
  obtain ⟨inv, np⟩ := JNP_run c evs henc (JInv_init c q0 hstart) (NPInv_init c q0 hstart) hnp hrun
  have hig : i ∈ J.q.generated := by rw [np.all]; exact hi
  obtain ⟨hdel, hlen, hview⟩ := kept_epoch c inv i hig hseen hreached
  refine ⟨np.norem, _, hdel, rfl, rfl, ?_⟩
  refine (drop_eq_append_replicate (w := wave i.key 0 i.len) hlen ?_ ?_).trans (by rw [wave_length])
  · intro j hj
    rw [wave_length] at hj
    obtain ⟨p, hp, _, hv⟩ := hview j (by omega)
    rw [hv, inv.q.emb.kept i hig j hj p hp]
    simpa using (wave_getElem? i.key 0 i.len j hj).symm
  · -- the trial's own inter-trial gap covers the rest of the epoch
    intro j hj hjL
    rw [wave_length] at hj
    obtain ⟨p, hp, _, hv⟩ := hview j hjL
    rw [hv]
    exact (np.gap i hig).2 p (by rw [hp]; exact Int.add_le_add_left (Int.ofNat_le.2 hj) _) (by omega)

/-- The code's own schedule is admissible.  After a history in which every acquisition call drained
the notification FIFO (what `extract_epochs` does with its two deques), the next draining call is
neither a `lateRequest` nor a `lateRemoval`, provided the look-back buffer covers the pre-stimulus
time (`P ≤ B`) and no pre-stimulus window starts before the acquisition (`P ≤ K0 + k`):
notifications are issued at generation time, before the samples are acquired. -/
theorem deque_schedule_admissible (c : Cfg) (evs : List Ev) (q0 : QState) (J : JState)
    (hstart : Start q0) (hrun : jrun c evs (JState.init c q0) = .ok J) (henc : EncInj c)
    (hside : SideOK c J.q.added)
    (hdr : drains c evs (JState.init c q0) = true) (hPB : c.P ≤ c.B)
    (hpre : ∀ i ∈ J.q.added, (c.P : Int) ≤ (c.K0 : Int) + i.k)
    (n : Nat) (complete : Bool) (hn : J.acq + n ≤ J.tl.length) :
    ∃ J', jstep c J (.acq n J.pend.length complete) = .ok J' := by
  have inv := JInv_run c henc evs (JInv_init c q0 hstart) hrun (fun _ => hside)
  have d := DInv_run c henc evs (JInv_init c q0 hstart) (by intro i hi; simp [JState.init] at hi) hdr hrun hside
  exact deque_step_ok c inv d hPB (fun i hi => hpre i (inv.n.addsPend i hi)) n _ complete hn (Nat.le_refl _)

/-! Non-vacuity.  `exQ`: FIFO queue, one 3-sample stimulus × 3, delay 2.  `exC`: acquisition starts
2 samples early, 1 pre-stimulus sample, epochs of 5, look-back 4.  In `exEvs` the pause at queue
sample 6 cancels the trial at 5 and keeps the one at 0. -/

def zz (k : Int) : Nat := if 0 ≤ k then 2 * k.toNat else 2 * (-k).toNat + 1

def exC : Cfg := { K0 := 2, P := 1, L := 5, B := 4, enc := fun k key => Nat.pair (zz k) key }

/-- sign by parity, magnitude by half -/
theorem zz_inj {a a' : Int} (h : zz a = zz a') : a = a' := by
  unfold zz at h
  by_cases ha : 0 ≤ a <;> by_cases ha' : 0 ≤ a'
  · rw [if_pos ha, if_pos ha'] at h
    rw [← Int.toNat_of_nonneg ha, ← Int.toNat_of_nonneg ha', Nat.eq_of_mul_eq_mul_left (by decide) h]
  · rw [if_pos ha, if_neg ha'] at h
    exact absurd h (by generalize a.toNat = x; generalize (-a').toNat = y; omega)
  · rw [if_neg ha, if_pos ha'] at h
    exact absurd h (by generalize a'.toNat = x; generalize (-a).toNat = y; omega)
  · rw [if_neg ha, if_neg ha'] at h
    have e := congrArg (Nat.cast : Nat → Int) (Nat.eq_of_mul_eq_mul_left (by decide) (Nat.add_right_cancel h))
    rw [Int.toNat_of_nonneg (Int.neg_nonneg_of_nonpos (Int.le_of_lt (Int.not_le.1 ha))),
      Int.toNat_of_nonneg (Int.neg_nonneg_of_nonpos (Int.le_of_lt (Int.not_le.1 ha')))] at e
    exact Int.neg_inj.1 e

theorem exC_inj : EncInj exC := by
  intro a b a' b' h
  obtain ⟨h1, h2⟩ := Nat.pair_eq_pair.1 h
  exact ⟨zz_inj h1, h2⟩

def exQ : QState := (append { kind := .fifo } ⟨3, false, 3, 3, [2], 0, 3⟩).1

theorem exQ_start : Start exQ := by
  refine ⟨?_, rfl, rfl, rfl, rfl, rfl⟩
  intro i e h
  simp only [exQ, append, List.nil_append] at h
  match i, h with
  | 0, h => simp at h; subst h; decide
  | n + 1, h => simp at h

def exEvs : List Ev :=
  [.q (.pop 8), .acq 6 5 false, .q (.pause (some 6)), .q (.pop 3), .q (.resume none), .q (.pop 10),
   .acq 15 9 true]

def exJ : JState :=
  match jrun exC exEvs (JState.init exC exQ) with
  | .ok J => J
  | .error _ => JState.init exC exQ

theorem exRun : jrun exC exEvs (JState.init exC exQ) = .ok exJ := by rfl

theorem exJ_side : SideOK exC exJ.q.added := by unfold SideOK; decide +kernel

/-- the cancelled trial's first sample survives at position 7; it is re-presented at 11 -/
example : exJ.tl = [.Z, .Z, .W 0 0, .W 0 1, .W 0 2, .Z, .Z, .W 0 0, .Z, .Z, .Z, .W 0 0, .W 0 1, .W 0 2,
    .Z, .Z, .W 0 0, .W 0 1, .W 0 2, .Z, .Z] := by decide +kernel
example : exJ.q.added.map (fun i => (i.uid, i.k)) = [(0, 0), (1, 5), (2, 9), (3, 14)] ∧
    exJ.q.removed = [1] ∧ exJ.pend = [] ∧ exJ.acq = 21 := by decide +kernel

/-- the kept trial at queue sample 9 (after the resume) -/
example : ∃ e : Extract.Epoch Cell,
    (deliveries exC.B exJ.eops (reqOf exC ⟨2, 0, 9, 3, 3, 2⟩).key).flatten = [e] ∧
      ∀ j, j < 3 → e.data[1 + j]? = some (Cell.W 0 j) := by
  obtain ⟨e, h1, _, _, _, h5, _⟩ := e2e_composed_kept exC exEvs exQ exJ exQ_start exRun exC_inj
    exJ_side ⟨2, 0, 9, 3, 3, 2⟩
    (by decide +kernel) (by decide +kernel) (by decide +kernel)
  exact ⟨e, h1, h5⟩

/-- the trial at queue sample 5, cancelled by the pause -/
example : (deliveries exC.B exJ.eops (reqOf exC ⟨1, 0, 5, 3, 3, 2⟩).key).flatten = [] :=
  (e2e_composed_cancelled exC exEvs exQ exJ exQ_start exRun exC_inj
    exJ_side ⟨1, 0, 5, 3, 3, 2⟩
    (by decide +kernel) (by decide +kernel)).2 (by decide +kernel)

/-! A history that re-uses a dictionary key: the pause at queue sample 0 falls exactly on the start
of trial uid 0, which is cancelled; the clock rewinds and trial uid 1 is presented at queue sample 0
with the same stimulus.  The one acquisition call sees `added, removed, added, added`. -/

def exEvsR : List Ev :=
  [.q (.pop 4), .q (.pause (some 0)), .q (.resume none), .q (.pop 8), .acq 10 9 true]

def exJR : JState :=
  match jrun exC exEvsR (JState.init exC exQ) with
  | .ok J => J
  | .error _ => JState.init exC exQ

theorem exRunR : jrun exC exEvsR (JState.init exC exQ) = .ok exJR := by rfl

example : exJR.q.added.map (fun i => (i.uid, i.k, i.key)) = [(0, 0, 0), (1, 0, 0), (2, 5, 0)] ∧
    exJR.q.removed = [0] ∧ exJR.pend = [] ∧ exJR.acq = 10 ∧
    exJR.eops.map (fun o => (o.reqs.map (·.key), o.rems)) =
      [([Nat.pair 0 0, Nat.pair 0 0, Nat.pair 10 0], [Nat.pair 0 0])] := by decide +kernel

theorem exJR_side : SideOK exC exJR.q.added := by unfold SideOK; decide +kernel

theorem exJR_kept : ∃ e : Extract.Epoch Cell,
    (deliveries exC.B exJR.eops (reqOf exC ⟨1, 0, 0, 3, 3, 2⟩).key).flatten = [e] ∧
      ∀ j, j < 3 → e.data[1 + j]? = some (Cell.W 0 j) := by
  obtain ⟨e, h1, _, _, _, h5, _⟩ := e2e_composed_kept exC exEvsR exQ exJR exQ_start exRunR exC_inj
    exJR_side ⟨1, 0, 0, 3, 3, 2⟩ (by decide +kernel) (by decide +kernel) (by decide +kernel)
  exact ⟨e, h1, h5⟩

example : ∃ e : Extract.Epoch Cell,
    (deliveries exC.B exJR.eops (reqOf exC ⟨1, 0, 0, 3, 3, 2⟩).key).flatten = [e] ∧
      ∀ j, j < 3 → e.data[1 + j]? = some (Cell.W 0 j) :=
  exJR_kept

/-- the cancelled trial (uid 0) has the same key: the one epoch under it is the kept trial's -/
example : ∃ i' ∈ exJR.q.generated, i'.uid ∉ exJR.q.removed ∧ i' ≠ ⟨0, 0, 0, 3, 3, 2⟩ ∧
    (deliveries exC.B exJR.eops (reqOf exC ⟨0, 0, 0, 3, 3, 2⟩).key).flatten =
      [epochOf (streamOf exJR.eops) (reqOf exC i')] := by
  rcases (e2e_composed_cancelled exC exEvsR exQ exJR exQ_start exRunR exC_inj
    exJR_side ⟨0, 0, 0, 3, 3, 2⟩ (by decide +kernel) (by decide +kernel)).1 with h | h
  · exfalso
    obtain ⟨e, h1, _⟩ := exJR_kept
    have : reqOf exC ⟨1, 0, 0, 3, 3, 2⟩ = reqOf exC ⟨0, 0, 0, 3, 3, 2⟩ := rfl
    rw [this, h] at h1
    cases h1
  · obtain ⟨i', h1, h2, h3, _, _, h6⟩ := h
    exact ⟨i', h1, h2, h3, h6⟩

/-- `exEvs` drains the deques in both calls -/
example : ∃ J', jstep exC exJ (.acq 0 exJ.pend.length true) = .ok J' :=
  deque_schedule_admissible exC exEvs exQ exJ exQ_start exRun exC_inj
    exJ_side (by decide +kernel) (by decide)
    (by decide +kernel) 0 true (by decide +kernel)

/-- non-vacuity of `reqOf_start_roundtrip`, with `fl = id` -/
example : round (extractorArg (fun x => x) (2 / 97656.25) 97656.25 (1 / 97656.25) 9) =
    (reqOf exC ⟨2, 0, 9, 3, 3, 2⟩).s := by
  have h : (97656.25 : ℝ) ≠ 0 := by norm_num
  exact reqOf_start_roundtrip (isFl_id (by positivity)) (2 / 97656.25) 97656.25 (1 / 97656.25) exC
    ⟨2, 0, 9, 3, 3, 2⟩ 9 rfl (by norm_num) ((div_mul_cancel₀ _ h).trans Nat.cast_ofNat.symm)
    ((div_mul_cancel₀ _ h).trans Nat.cast_one.symm) (by decide)

/-- no pause: generate 13 in two requests, acquire in three calls with delayed notifications -/
def exEvs2 : List Ev :=
  [.q (.pop 6), .acq 4 0 false, .q (.pop 7), .acq 5 1 false, .acq 6 5 true]

def exJ2 : JState :=
  match jrun exC exEvs2 (JState.init exC exQ) with
  | .ok J => J
  | .error _ => JState.init exC exQ

theorem exRun2 : jrun exC exEvs2 (JState.init exC exQ) = .ok exJ2 := by rfl

example : ∃ e : Extract.Epoch Cell,
    (deliveries exC.B exJ2.eops (reqOf exC ⟨1, 0, 5, 3, 3, 2⟩).key).flatten = [e] ∧
      e.data.drop 1 = [.W 0 0, .W 0 1, .W 0 2, .Z] := by
  obtain ⟨_, e, h1, _, _, h4⟩ := e2e_composed_nopause exC exEvs2 exQ exJ2 exQ_start exRun2 exC_inj
    (by unfold NoPause; decide) ⟨1, 0, 5, 3, 3, 2⟩ (by decide +kernel) (by decide +kernel) (by decide) (by decide)
    (by decide +kernel)
  exact ⟨e, h1, h4⟩

end Psi.C06

import PsiProofs.Helper.C07_Interp
/-!
# C07 — calibration conversions are mutually inverse, additive in dB, and fail loudly

Theorems about the definitions of `PsiModel/DbField.lean` at `α := ℝ` (instance in
`Helper/C07_Real.lean`).  The same definitions are executed on `Float` by `psidriver calib`
and compared with `psiaudio/calibration.py` on every run.  Floating-point round-off is not
bounded by any theorem here.
-/
namespace Psi.Db

/-- volts → level → volts. -/
theorem getSf_getDb (c : Cal ℝ) (f v L : ℝ) (hv : 0 < v) (h : getDb c f v = .val L) :
    getSf c f L 0 = .val v := by
  obtain ⟨S, hS, rfl⟩ := Res.map_eq_val h
  rw [getSf, hS, Res.map_val, sfOf_db1 S v hv]

theorem getSf_add_attenuation (c : Cal ℝ) (f L A d x : ℝ) (h : getSf c f L A = .val x) :
    getSf c f L (A + d) = .val ((10 : ℝ) ^ (d / 20) * x) := by
  rw [getSf_shift c f (add_assoc L A d).symm, h, Res.map_val]

/-- `set_fixed_gain(fixed_gain + d)` -/
def Cal.addGain : Cal ℝ → ℝ → Cal ℝ
  | .flat s g, d => .flat s (g + d)
  | .interp t g, d => .interp t (g + d)
  | .point t g, d => .point t (g + d)

theorem getSens_addGain (c : Cal ℝ) (f d : ℝ) : getSens (c.addGain d) f = (getSens c f).map (· - d) := by
  cases c with
  | flat s g => exact congrArg Res.val (sub_add_eq_sub_sub s g d)
  | interp t g | point t g => simp only [getSens, Cal.addGain, Res.map_map, sub_add_eq_sub_sub]

theorem getSf_add_fixedGain (c : Cal ℝ) (f L A d x : ℝ) (h : getSf c f L A = .val x) :
    getSf (c.addGain d) f L A = .val ((10 : ℝ) ^ (d / 20) * x) := by
  obtain ⟨S, hS, rfl⟩ := Res.map_eq_val h
  rw [getSf, getSens_addGain, hS]
  exact congrArg Res.val (sfOf_offset (by ring))

/-- +20 dB of level ⇔ ×10 volts. -/
theorem getSf_plus20 (c : Cal ℝ) (f L A x : ℝ) (h : getSf c f L A = .val x) :
    getSf c f (L + 20) A = .val (10 * x) := by
  rw [getSf_add_level c f L A 20 x h, exp10_one]

theorem getDb_times10 (c : Cal ℝ) (f v D : ℝ) (hv : 0 < v) (h : getDb c f v = .val D) :
    getDb c f (10 * v) = .val (D + 20) := by
  obtain ⟨S, hS, rfl⟩ := Res.map_eq_val h
  have h10 : db1 (10 : ℝ) = 20 := by rw [← exp10_one, db1_exp10]
  rw [getDb, hS, Res.map_val, db1_mul ten_pos hv, h10]
  congr 1; ring

/-- `get_gain = db(get_sf) = level - sensitivity + attenuation` -/
theorem getGain_eq (c : Cal ℝ) (f L A S : ℝ) (h : getSens c f = .val S) :
    getGain c f L A = .val (L - S + A) := by
  rw [getGain, getSf, h, Res.map_val, Res.map_val, eq_sub_of_add_eq (db1_sfOf S L A), add_sub_right_comm]

/-- `get_attenuation(f, v, L) = get_db(f, v) - L`; for the voltage of level `L'` it is `L' - L`. -/
theorem getAttenuation_eq (c : Cal ℝ) (f L L' v : ℝ) (h : getSf c f L' 0 = .val v) :
    getAttenuation c f v L = .val (L' - L) := by
  rw [getAttenuation, getDb_getSf c f L' 0 v h, Res.map_val, add_zero]

/-- `get_mean_sf` of the fixed code (`C07_fix_1`: the attenuation is forwarded); errors unchanged. -/
theorem getMeanSf_attenuation (c : Cal ℝ) (flb : ℝ) (freqs : List ℝ) (L A d : ℝ) :
    getMeanSf c flb freqs L (A + d) = (getMeanSf c flb freqs L A).map ((10 : ℝ) ^ (d / 20) * ·) :=
  getMeanSf_scale c flb freqs fun f => getSf_shift c f (add_assoc L A d).symm

/-- Recon defect 11: the unfixed code gave ×1. -/
theorem getMeanSf_plus20 (c : Cal ℝ) (flb : ℝ) (freqs : List ℝ) (L A x : ℝ)
    (h : getMeanSf c flb freqs L A = .val x) : getMeanSf c flb freqs L (A + 20) = .val (10 * x) := by
  rw [getMeanSf_attenuation, h, Res.map_val, exp10_one]

theorem fromSpl_eq_fromDb (L v g : ℝ) : Cal.fromSpl L v g = Cal.fromDb L v g := rfl

/-- `from_pascals(dbtopa(L), vrms) = from_spl(L, vrms)` (fixed code, `C07_fix_2`). -/
theorem fromPascals_dbtopa (L v g : ℝ) : Cal.fromPascals (dbtopa L) v g = Cal.fromSpl L v g := by
  rw [Cal.fromPascals, Cal.fromSpl, sensFromPascals, sensFromDb, dbtopa, db1_dbi L pRef_pos]
  congr 1; ring

/-- The device "`v` volts were measured as `L` dB" reads `L` at `v` volts (minus the fixed gain). -/
theorem fromSpl_reads (L v g f : ℝ) : getDb (Cal.fromSpl L v g) f v = .val (L - g) := by
  simp only [getDb, getSens, Cal.fromSpl, sensFromDb, Res.map_val]
  congr 1; ring

theorem fromPascals_reads (m v g f : ℝ) (hm : 0 < m) :
    getDb (Cal.fromPascals m v g) f v = .val (patodb m - g) := by
  simp only [getDb, getSens, Cal.fromPascals, sensFromPascals, Res.map_val, patodb, db_eq_sub hm pRef_pos]
  congr 1; ring

theorem toMvPa_fromMvPa (m : ℝ) (hm : 0 < m) : toMvPa (sensFromMvPa m) = m := by
  have h1 : (0 : ℝ) < 1 / (m * (1 / 1000)) := by positivity
  have e : toMvPa (sensFromMvPa m) = 1000 / dbi (db1 (1 / (m * (1 / 1000)))) 1 := by
    simp only [toMvPa, sensFromMvPa, nat_real, Nat.cast_ofNat, Nat.cast_one, sub_add_cancel]
  rw [e, dbi_db1 h1]
  field_simp

/-- 1 Pa at the microphone (`m` mV) reads `patodb 1` ≈ 94 dB SPL. -/
theorem fromMvPa_reads (m f : ℝ) (hm : 0 < m) :
    getDb (Cal.fromMvPa m) f (m * (1 / 1000)) = .val (patodb 1) := by
  have hp : (0 : ℝ) < m * (1 / 1000) := by positivity
  simp only [getDb, getSens, Cal.fromMvPa, sensFromMvPa, Res.map_val, patodb, nat_real, Nat.cast_ofNat,
    Nat.cast_one, Nat.cast_zero, db1_div one_pos hp, db_eq_sub one_pos pRef_pos]
  congr 1; ring

theorem unity_identity (f L : ℝ) : getSf Cal.unity f L 0 = .val ((10 : ℝ) ^ (L / 20)) := by
  simp [getSf, getSens, Cal.unity, sfOf_real]

/-- An interpolated calibration reproduces the table at its points. -/
theorem interp_at_knot (t : List (ℝ × ℝ)) (hs : SortedTbl t) (hlen : 2 ≤ t.length) (xi yi : ℝ)
    (hmem : (xi, yi) ∈ t) : interp t xi = .val yi := by
  rw [interp_inside t hs (xi, yi) (xi, yi) hmem hmem xi le_rfl le_rfl]
  obtain ⟨pre, post, rfl⟩ := List.append_of_mem hmem
  rcases List.eq_nil_or_concat' pre with rfl | ⟨pre', p, rfl⟩
  · -- the first knot: lower end of the first segment
    cases post with
    | nil => simp at hlen
    | cons b post' =>
      have hlt : xi < b.1 := (List.pairwise_cons.mp hs).1 b List.mem_cons_self
      rw [List.nil_append, interpSeg_of_le _ _ _ hlt.le, seg_at_lo hlt]
  · -- any other knot: upper end of the segment before it
    rw [List.append_assoc, List.singleton_append] at hs ⊢
    have hlt : p.1 < xi :=
      (List.pairwise_cons.mp (List.pairwise_append.mp hs).2.1).1 (xi, yi) List.mem_cons_self
    rw [interpSeg_pick pre' post p.1 p.2 xi yi xi hs hlt le_rfl, seg_at_hi hlt]

/-- Between two adjacent table points the sensitivity is the straight line (in dB) through them. -/
theorem interp_linear_between (pre post : List (ℝ × ℝ)) (x0 y0 x1 y1 x : ℝ)
    (hs : SortedTbl (pre ++ (x0, y0) :: (x1, y1) :: post)) (hlo : x0 ≤ x) (hhi : x ≤ x1) :
    interp (pre ++ (x0, y0) :: (x1, y1) :: post) x = .val (y0 + (y1 - y0) * (x - x0) / (x1 - x0)) := by
  have h01 : x0 < x1 :=
    (List.pairwise_cons.mp (List.pairwise_append.mp hs).2.1).1 (x1, y1) List.mem_cons_self
  have m0 : (x0, y0) ∈ pre ++ (x0, y0) :: (x1, y1) :: post := List.mem_append_right _ List.mem_cons_self
  rcases eq_or_lt_of_le hlo with rfl | hlt
  · rw [interp_at_knot _ hs (by rw [List.length_append]; exact Nat.le_add_left _ _) x0 y0 m0, sub_self,
      mul_zero, zero_div, add_zero]
  · rw [interp_inside _ hs (x0, y0) (x1, y1) m0
        (List.mem_append_right _ (List.mem_cons_of_mem _ List.mem_cons_self)) x hlo hhi,
      interpSeg_pick pre post x0 y0 x1 y1 x hs hlt hhi, seg_eq_linear h01]

/-- Below the first or above the last table frequency the answer is NaN, never a level. -/
theorem interp_outside (h : ℝ × ℝ) (t : List (ℝ × ℝ)) (xn x : ℝ) (hl : lastX (h :: t) = some xn)
    (hx : x < h.1 ∨ xn < x) : interp (h :: t) x = .nan := by
  obtain ⟨h1, h2⟩ := h
  simp only [interp, hl]
  rcases hx with hx | hx <;> simp [hx]

theorem getSens_interp_at_knot (t : List (ℝ × ℝ)) (g : ℝ) (hs : SortedTbl t) (hlen : 2 ≤ t.length) (xi yi : ℝ)
    (hmem : (xi, yi) ∈ t) : getSens (.interp t g) xi = .val (yi - g) := by
  simp [getSens, interp_at_knot t hs hlen xi yi hmem]

/-- `PointCalibration.get_sens` raises `CalibrationError` at a frequency that is not in the table. -/
theorem point_absent (t : List (ℝ × ℝ)) (g f : ℝ) (h : ∀ r ∈ t, r.1 ≠ f) :
    getSens (.point t g) f = .calErr := by
  simp [getSens, lookup_absent t f h]

theorem point_present (t : List (ℝ × ℝ)) (g f y : ℝ) (hd : (t.map (·.1)).Nodup) (hm : (f, y) ∈ t) :
    getSens (.point t g) f = .val (y - g) := by
  simp [getSens, lookup_present t f y hd hm]

/-- NaN sensitivity (outside the interpolation range) makes every conversion NaN. -/
theorem nan_propagates (c : Cal ℝ) (f L A v : ℝ) (h : getSens c f = .nan) :
    getSf c f L A = .nan ∧ getDb c f v = .nan ∧ getGain c f L A = .nan ∧ getAttenuation c f v L = .nan := by
  simp [getSf, getDb, getGain, getAttenuation, h]

/-- If `get_sens` raises `CalibrationError` every conversion raises it. -/
theorem calErr_propagates (c : Cal ℝ) (f L A v : ℝ) (h : getSens c f = .calErr) :
    getSf c f L A = .calErr ∧ getDb c f v = .calErr ∧ getGain c f L A = .calErr ∧
      getAttenuation c f v L = .calErr := by
  simp [getSf, getDb, getGain, getAttenuation, h]

/-- A number only ever comes out where the sensitivity is defined. -/
theorem val_needs_sens (c : Cal ℝ) (f L A x : ℝ) (h : getSf c f L A = .val x) : ∃ S, getSens c f = .val S := by
  obtain ⟨S, hS, _⟩ := Res.map_eq_val h; exact ⟨S, hS⟩

/-- `get_mean_sf` of a frequency-dependent calibration returns a number only if every frequency of the range is
calibrated. -/
theorem getMeanSf_val_all_calibrated (c : Cal ℝ) (flb : ℝ) (freqs : List ℝ) (L A x : ℝ)
    (hc : ∀ s g, c ≠ .flat s g) (h : getMeanSf c flb freqs L A = .val x) :
    ∀ f ∈ freqs, ∃ S, getSens c f = .val S := by
  intro f hf
  rw [getMeanSf_of_ne_flat hc] at h
  obtain ⟨v, hv⟩ := meanRes_val h _ (List.mem_map_of_mem (f := (getSf c · L A)) hf)
  exact val_needs_sens c f L A v hv

-- 94 dB SPL at 1 Vrms: the voltage asked for at 74 dB reads back 74 dB.
example : getSf (Cal.fromSpl (94 : ℝ) 1 0) 1000 74 0 = .val ((10 : ℝ) ^ ((74 - (94 - db1 (1 : ℝ)) + 0) / 20)) := by
  simp [getSf, getSens, Cal.fromSpl, sensFromDb, sfOf_real]

example : getDb (Cal.fromSpl (94 : ℝ) 1 0) 1000 ((10 : ℝ) ^ ((74 - (94 - db1 (1 : ℝ)) + 0) / 20)) = .val (74 + 0) :=
  getDb_getSf _ _ _ _ _ (by simp [getSf, getSens, Cal.fromSpl, sensFromDb, sfOf_real])

def demoTbl : List (ℝ × ℝ) := [(100, 90), (1000, 100), (10000, 80)]

theorem demoTbl_sorted : SortedTbl demoTbl := by
  simp [SortedTbl, demoTbl]; norm_num

example : interp demoTbl 550 = .val (90 + (100 - 90) * (550 - 100) / (1000 - 100)) :=
  interp_linear_between [] [(10000, 80)] 100 90 1000 100 550 demoTbl_sorted (by norm_num) (by norm_num)

example : interp demoTbl 1000 = .val 100 :=
  interp_at_knot demoTbl demoTbl_sorted (by simp [demoTbl]) 1000 100 (by simp [demoTbl])

example : getSens (.point [((1000 : ℝ), (90 : ℝ)), (2000, 100)] 0) 1500 = .calErr :=
  point_absent _ _ _ (by simp)

example : getSens (.interp demoTbl 0) 50 = .nan := by
  have h : interp demoTbl 50 = .nan :=
    interp_outside (100, 90) [(1000, 100), (10000, 80)] 10000 50 rfl (Or.inl (by norm_num))
  simp only [getSens, h, Res.map_nan]

example : getMeanSf (Cal.fromSpl (94 : ℝ) 1 0) 200 [200, 201] 70 (0 + 20)
    = (getMeanSf (Cal.fromSpl (94 : ℝ) 1 0) 200 [200, 201] 70 0).map ((10 : ℝ) ^ ((20 : ℝ) / 20) * ·) :=
  getMeanSf_attenuation _ _ _ _ _ _

end Psi.Db

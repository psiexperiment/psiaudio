import PsiProofs.Helper.C11_Split
import PsiProofs.Helper.C11_Adjacent
import PsiProofs.Helper.C11_Data
/-!
# C11 — annotated arrays keep time base, channel labels and metadata aligned

Property theorems about the model `PsiModel/PData.lean` with the repairs of notes/C11_fix_1..3.diff (`getitem`,
`concat`), and counterexamples for the code as found (`getitemOrig`).
-/
namespace Psi.PData

/-- Python's `l[start:stop]` (unit step). -/
def pySliceList {α} (l : List α) (s : PySlice) : List α :=
  (l.take (stopNat s l.length)).drop (startNat s l.length)

theorem t_length (a : PD) : a.t.length = a.nTime := by simp [PD.t]

private theorem t_slice (s0 : Int) (fs : Rat) (n a b : Nat) (hb : b ≤ n) :
    (List.range (b - a)).map (fun (j : Nat) => (((s0 + (a : Int)) + (j : Int) : Int) : Rat) / fs) =
      (((List.range n).map fun (j : Nat) => ((s0 + (j : Int) : Int) : Rat) / fs).take b).drop a := by
  apply List.ext_getElem
  · simp; omega
  · intro i h1 h2
    simp at h1 h2 ⊢
    rw [Rat.add_assoc]

/-- `x[..., start:stop:k]`, `k ≥ 1`, on every well-formed 1-, 2- or 3-D array. -/
theorem getitem_tslice (a : PD) (hwf : WF a) (s : PySlice) (k : Int) (hk : 0 < k) (hs : s.step.getD 1 = k) :
    ∃ d, getitem a (.tuple [.ellipsis, .slice s]) =
      .ok (.arr ⟨a.shape.dropLast ++ [sliceLen (startNat s a.nTime) (stopNat s a.nTime) k], d,
        timeS0 a.s0 s a.nTime, timeFs a.fs s, a.channel, a.metadata⟩) := by
  have hp := fun n => slicePositions_pos s n k hk hs
  cases hwf with
  | d1 n data s0 fs lab m hd =>
    exact ⟨_, by simpa [PD.nTime] using slice_t1 data s0 fs s k _ n lab m hk hs (hp n) (.tuple [.ellipsis, .slice s]) (by simp)⟩
  | d2 c n data s0 fs l m hd hl =>
    exact ⟨_, by simpa [PD.nTime] using slice_t2 data s0 fs s k _ c n l m hk hs (hp n)⟩
  | d3 e c n data s0 fs l ms hd hl hm =>
    exact ⟨_, by simpa [PD.nTime] using slice_t3 data s0 fs s k _ e c n l ms hk hs (hp n)⟩

private theorem t_of_slice (sh : List Nat) (d : List Nat) (ch : Chan) (md : Meta) (a b : Nat)
    (x : PD) (hb : b ≤ x.nTime) :
    PD.t ⟨sh ++ [b - a], d, x.s0 + a, x.fs, ch, md⟩ = (x.t.take b).drop a := by
  simp only [PD.t, PD.nTime, List.getLast?_append, List.getLast?_singleton, Option.some_or, Option.getD_some]
  exact t_slice x.s0 x.fs _ a b hb

/-- Time base of a contiguous slice: `x[..., start:stop]` — `start`, `stop` any integers or `None`, negative or out
of range alike — succeeds, and the time axis of the result is that slice of the time axis; rate, labels and metadata
are untouched. -/
theorem unit_slice_time (a : PD) (hwf : WF a) (s : PySlice) (hunit : s.step = none ∨ s.step = some 1) :
    ∃ r, getitem a (.tuple [.ellipsis, .slice s]) = .ok (.arr r) ∧
      r.t = pySliceList a.t s ∧ r.fs = a.fs ∧ r.channel = a.channel ∧ r.metadata = a.metadata ∧
      r.shape = a.shape.dropLast ++ [stopNat s a.nTime - startNat s a.nTime] := by
  have hs : s.step.getD 1 = 1 := by rcases hunit with h | h <;> simp [h]
  obtain ⟨d, hd⟩ := getitem_tslice a hwf s 1 (by omega) hs
  rw [sliceLen_unit, timeFs_unit hunit] at hd
  refine ⟨_, hd, ?_, rfl, rfl, rfl, rfl⟩
  rw [pySliceList, t_length]
  exact t_of_slice _ _ _ _ _ _ a (stopNat_le s _)

/-- The bare form `x[start:stop]` of a 1-D array. -/
theorem unit_slice_time_1d (n : Nat) (data : List Nat) (s0 : Int) (fs : Rat) (lab : Label) (m : Md)
    (s : PySlice) (hunit : s.step = none ∨ s.step = some 1) :
    ∃ r, getitem ⟨[n], data, s0, fs, .one lab, .one m⟩ (.one (.slice s)) = .ok (.arr r) ∧
      r.t = pySliceList (PD.t ⟨[n], data, s0, fs, .one lab, .one m⟩) s ∧ r.fs = fs ∧
      r.channel = .one lab ∧ r.metadata = .one m ∧ r.shape = [stopNat s n - startNat s n] := by
  have hs : s.step.getD 1 = 1 := by rcases hunit with h | h <;> simp [h]
  have hd := slice_t1 data s0 fs s 1 _ n lab m (by omega) hs (slicePositions_unit s n hs) (.one (.slice s)) (by simp)
  rw [timeFs_unit hunit] at hd
  refine ⟨_, hd, ?_, rfl, rfl, rfl, by simp⟩
  rw [pySliceList, t_length, List.length_range']
  exact t_of_slice [] _ _ _ _ _ ⟨[n], data, s0, fs, .one lab, .one m⟩ (stopNat_le s _)

/-- A strided slice `x[..., start:stop:k]` divides the rate by `k`.  The first-sample index after a strided slice
is not part of the claim. -/
theorem strided_rate (a : PD) (hwf : WF a) (s : PySlice) (k : Int) (hk : 1 ≤ k) (hs : s.step = some k) :
    ∃ r, getitem a (.tuple [.ellipsis, .slice s]) = .ok (.arr r) ∧
      r.fs = a.fs / (k : Rat) ∧ r.channel = a.channel ∧ r.metadata = a.metadata ∧
      r.shape = a.shape.dropLast ++ [sliceLen (startNat s a.nTime) (stopNat s a.nTime) k] := by
  obtain ⟨d, hd⟩ := getitem_tslice a hwf s k (by omega) (by simp [hs])
  exact ⟨_, hd, by simp [timeFs, hs], rfl, rfl, rfl⟩

/-- The index entries of the property's grammar that address a channel or epoch axis. -/
def Item.selects : Item → Prop
  | .int _ => True
  | .slice s => s.step = none ∨ ∃ k : Int, 1 ≤ k ∧ s.step = some k
  | .ilist _ | .blist _ | .iarr _ | .barr _ => True
  | .newaxis | .ellipsis => False

theorem Item.selects_consumes {it : Item} (h : it.selects) : it.consumes = true := by
  cases it <;> first | rfl | exact False.elim h

theorem itemSel_lt {it : Item} (hit : it.selects) {n : Nat} {sel : Sel} (h : itemSel it n = .ok sel) :
    ∀ p ∈ sel.positions, p < n := by
  cases it with
  | newaxis => exact False.elim hit
  | ellipsis => exact False.elim hit
  | slice s =>
    obtain ⟨ps, hp, rfl⟩ := map_eq_ok h
    rcases hit with hn | ⟨k, hk, hs⟩
    · exact slicePositions_pos_lt 1 (by omega) (by simp [hn]) hp
    · exact slicePositions_pos_lt k (by omega) (by simp [hs]) hp
  | _ => exact (itemSel_nsel rfl h).lt (fun s hs => by cases hs)

/-- `none` for a single label: the axis was dropped. -/
def chanCount : Chan → Option Nat
  | .one _ => none
  | .many l => some l.length

def metaCount : Meta → Option Nat
  | .one _ => none
  | .many l => some l.length

theorem selChan_count (l : List Label) (sel : Sel) (h : ∀ p ∈ sel.positions, p < l.length) :
    chanCount (selChan l sel) = (selShape sel).head? := by
  cases sel with
  | idx p => simp [selChan, chanCount, selShape]
  | basic ps => simpa [selChan, chanCount, selShape] using listTake_length l ps h
  | fancy ps => simpa [selChan, chanCount, selShape] using listTake_length l ps h
  | new => simp [selChan, chanCount, selShape]

theorem selMeta_count (l : List Md) (sel : Sel) (h : ∀ p ∈ sel.positions, p < l.length) :
    metaCount (selMeta l sel) = (selShape sel).head? := by
  cases sel with
  | idx p => simp [selMeta, metaCount, selShape]
  | basic ps => simpa [selMeta, metaCount, selShape] using listTake_length l ps h
  | fancy ps => simpa [selMeta, metaCount, selShape] using listTake_length l ps h
  | new => simp [selMeta, metaCount, selShape]

/-- Channel selection `x[it]` on a `(channel, time)` array, `it` anything NumPy accepts on the channel axis
(`itemSel it c = ok sel`: `sel` lists the rows NumPy selects): the labels of the result are the labels at those rows,
in that order, as many as the resulting channel axis is long; `s0`, `fs`, metadata are untouched. -/
theorem channel_select_2d (c n : Nat) (data : List Nat) (s0 : Int) (fs : Rat) (l : List Label) (m : Md)
    (hl : l.length = c) (it : Item) (hit : it.selects) (sel : Sel) (h : itemSel it c = .ok sel) :
    ∃ r, getitem ⟨[c, n], data, s0, fs, .many l, .one m⟩ (.one it) = .ok (.arr r) ∧
      r.channel = selChan l sel ∧ r.shape = selShape sel ++ [n] ∧
      chanCount r.channel = (selShape sel).head? ∧
      r.s0 = s0 ∧ r.fs = fs ∧ r.metadata = .one m := by
  have hc := Item.selects_consumes hit
  obtain ⟨res, hnp, hsh⟩ := npOfSels_lead2 sel (itemSel_ne_new hc h) (List.range n) n 1
  exact ⟨_, getitem_chan_2d data s0 fs it hc c n l m hl h hnp, rfl, by simpa using hsh,
    selChan_count l sel (hl ▸ itemSel_lt hit h), rfl, rfl, rfl⟩

/-- Channel selection `x[:, it]` on a 3-D array; an ndarray inside a tuple is refused with `ValueError`, hence
`hna`. -/
theorem channel_select_3d (e c n : Nat) (data : List Nat) (s0 : Int) (fs : Rat) (l : List Label) (ms : List Md)
    (hl : l.length = c) (it : Item) (hit : it.selects) (hna : (∀ x, it ≠ .iarr x) ∧ (∀ x, it ≠ .barr x))
    (sel : Sel) (h : itemSel it c = .ok sel) :
    ∃ r, getitem ⟨[e, c, n], data, s0, fs, .many l, .many ms⟩ (.tuple [.slice .all, it]) = .ok (.arr r) ∧
      r.channel = selChan l sel ∧ r.shape = [e] ++ selShape sel ++ [n] ∧
      chanCount r.channel = (selShape sel).head? ∧
      r.s0 = s0 ∧ r.fs = fs ∧ r.metadata = .many ms := by
  have hs : it.simple := by
    cases it <;> first | trivial | exact False.elim hit | exact absurd rfl (hna.1 _) | exact absurd rfl (hna.2 _)
  obtain ⟨res, hnp, hsh⟩ := npOfSels_single (.basic (List.range e)) sel (List.range n) (c * n) n (by simp)
    (itemSel_ne_new (Item.selects_consumes hit) h) (by simp [Sel.isFancy])
  exact ⟨_, getitem_chan_3d e c n data s0 fs l ms hl it hs h hnp, rfl, by simpa [selShape] using hsh,
    selChan_count l sel (hl ▸ itemSel_lt hit h), rfl, rfl, rfl⟩

/-- Epoch selection `x[it]` on an `(epoch, channel, time)` array: the metadata entries of the result are those of
the selected epochs, in order, as many as the resulting epoch axis is long. -/
theorem epoch_select (e c n : Nat) (data : List Nat) (s0 : Int) (fs : Rat) (lc : List Label) (ms : List Md)
    (hm : ms.length = e) (it : Item) (hit : it.selects) (sel : Sel) (h : itemSel it e = .ok sel) :
    ∃ r, getitem ⟨[e, c, n], data, s0, fs, .many lc, .many ms⟩ (.one it) = .ok (.arr r) ∧
      r.metadata = selMeta ms sel ∧ r.shape = selShape sel ++ [c, n] ∧
      metaCount r.metadata = (selShape sel).head? ∧
      r.s0 = s0 ∧ r.fs = fs ∧ r.channel = .many lc := by
  have hc := Item.selects_consumes hit
  obtain ⟨res, hnp, hsh⟩ := npOfSels_single sel (.basic (List.range c)) (List.range n) (c * n) n
    (itemSel_ne_new hc h) (by simp) (by simp [Sel.isFancy])
  exact ⟨_, getitem_epoch_3d data s0 fs it hc e c n lc ms hm h hnp, rfl, by simpa [selShape] using hsh,
    selMeta_count ms sel (hm ▸ itemSel_lt hit h), rfl, rfl, rfl⟩

/-- A boolean mask selects the labels at its `True` positions. -/
theorem mask_labels {α} (l : List α) (m : List Bool) (h : m.length = l.length) :
    listTake l (trueIdx 0 m) = (l.zip m).filterMap fun (x, b) => if b then some x else none := by
  suffices H : ∀ (pre : List α), listTake (pre ++ l) (trueIdx pre.length m) =
      (l.zip m).filterMap fun (x, b) => if b then some x else none from by simpa using H []
  induction l generalizing m with
  | nil => intro pre; cases m <;> simp_all [trueIdx, listTake]
  | cons x xs ih =>
    intro pre
    cases m with
    | nil => simp at h
    | cons b bs =>
      have ih' := ih bs (by simpa using h) (pre ++ [x])
      simp only [List.append_assoc, List.singleton_append, List.length_append, List.length_singleton] at ih'
      cases b <;> simp [trueIdx, listTake] <;> simpa [listTake] using ih'

/-- Split + concat restores the array, on every axis `dim` the array has and for any cut positions `ks`
(negative and out-of-range alike) whose clamped values are nondecreasing: the slices `a[:k₁], a[k₁:k₂], …, a[kₘ:]` of
that axis (`cutIndex`: `x[..., s]` for time, `x[s]` / `x[:, s]` for channel, `x[s]` for epoch) all exist, and `concat` of
them along `dim` is `a` itself. -/
theorem concat_split (a : PD) (hwf : WF a) (dim : Dim) (hk : dim.k ≤ a.ndim) (ks : List Int)
    (hsorted : (ks.map (clampPos · (axisLen a dim))).Pairwise (· ≤ ·)) :
    ∃ pieces, (cutSlices ks).mapM (fun s => getArr Fixes.all a (cutIndex a.ndim dim s)) = .ok pieces ∧
      pieces.length = ks.length + 1 ∧ concat pieces dim = .ok a := by
  -- `split_axis dim a nd pre post P Q st n`: `pre` / `post` are the lengths of the axes outside / inside the cut
  -- one, `P` / `Q` their offset lists, `st` the stride and `n` the length of the cut axis:
  --   shape    dim     | nd  pre    post   P                         Q                    st   n
  --   [n]      time    | 1   []     []     []                        []                   1    n
  --   [c,n]    time    | 2   [c]    []     [axis c n]                []                   1    n
  --   [c,n]    channel | 2   []     [n]    []                        [range n]            n    c
  --   [e,c,n]  time    | 3   [e,c]  []     [axis e (c*n), axis c n]  []                   1    n
  --   [e,c,n]  channel | 3   [e]    [n]    [axis e (c*n)]            [range n]            n    c
  --   [e,c,n]  epoch   | 3   []     [c,n]  []                        [axis c n, range n]  c*n  e
  cases hwf with
  | d1 n data s0 fs lab m hd =>
    cases dim with
    | time =>
      exact split_axis .time ⟨[n], data, s0, fs, .one lab, .one m⟩ 1 [] [] [] [] 1 n rfl rfl rfl rfl
        (fun ps _ x => WF.d1 _ _ _ _ _ _ (by simp [pick, cart_length, prod_cons, prod_nil]))
        (fun s hstep => by
          simpa [cutPiece, slab, cutIndex, timeS0, timeFs_unit (.inl hstep)] using
            slice_t1 data s0 fs s 1 _ n lab m (by omega) (by simp [hstep]) (slicePositions_unit s n (by simp [hstep]))
              (.tuple [.ellipsis, .slice s]) (by simp))
        (by simp [cutPiece, slab, cart_single, pick_range data _ hd])
        ks hsorted
    | channel => simp [Dim.k, PD.ndim] at hk
    | epoch => simp [Dim.k, PD.ndim] at hk
  | d2 c n data s0 fs l m hd hl =>
    cases dim with
    | time =>
      exact split_axis .time ⟨[c, n], data, s0, fs, .many l, .one m⟩ 2 [c] [] [axis c n] [] 1 n
        (by simp [axis_length]) rfl rfl rfl
        (fun ps _ x => WF.d2 c _ _ _ _ _ _ (by simp [pick, cart_length, prod_cons, prod_nil, axis_length]) hl)
        (fun s hstep => by
          simpa [cutPiece, slab, cutIndex, timeS0, timeFs_unit (.inl hstep)] using
            slice_t2 data s0 fs s 1 _ c n l m (by omega) (by simp [hstep]) (slicePositions_unit s n (by simp [hstep])))
        (by simp [cutPiece, slab, cart_std2, pick_range data _ hd])
        ks hsorted
    | channel =>
      exact split_axis .channel ⟨[c, n], data, s0, fs, .many l, .one m⟩ 2 [] [n] [] [List.range n] n c
        rfl (by simp) rfl rfl
        (fun ps hlt x => WF.d2 _ n _ _ _ _ _ (by simp [pick, cart_length, prod_cons, prod_nil])
          (listTake_length l _ (hl ▸ hlt)))
        (fun s _ => by
          simpa [cutPiece, slab, cutIndex, chanList] using
            slice_c2 data s0 fs s _ c n l m hl (slicePositions_unit s c (by simp [*])))
        (by subst hl; simp [cutPiece, slab, chanList, map_mul_range, cart_std2, pick_range data _ hd, listTake_range])
        ks hsorted
    | epoch => simp [Dim.k, PD.ndim] at hk
  | d3 e c n data s0 fs l ms hd hl hm =>
    cases dim with
    | time =>
      exact split_axis .time ⟨[e, c, n], data, s0, fs, .many l, .many ms⟩ 3 [e, c] [] [axis e (c * n), axis c n] [] 1 n
        (by simp [axis_length]) rfl rfl rfl
        (fun ps _ x => WF.d3 e c _ _ _ _ _ _ (by simp [pick, cart_length, prod_cons, prod_nil, axis_length]) hl hm)
        (fun s hstep => by
          simpa [cutPiece, slab, cutIndex, timeS0, timeFs_unit (.inl hstep)] using
            slice_t3 data s0 fs s 1 _ e c n l ms (by omega) (by simp [hstep]) (slicePositions_unit s n (by simp [hstep])))
        (by simp [cutPiece, slab, cart_std3, pick_range data _ hd])
        ks hsorted
    | channel =>
      exact split_axis .channel ⟨[e, c, n], data, s0, fs, .many l, .many ms⟩ 3 [e] [n] [axis e (c * n)] [List.range n] n c
        (by simp [axis_length]) (by simp) rfl rfl
        (fun ps hlt x => WF.d3 e _ n _ _ _ _ _ (by simp [pick, cart_length, prod_cons, prod_nil, axis_length])
          (listTake_length l _ (hl ▸ hlt)) hm)
        (fun s _ => by
          simpa [cutPiece, slab, cutIndex, chanList] using
            slice_c3 data s0 fs s _ e c n l ms hl (slicePositions_unit s c (by simp [*])))
        (by subst hl; simp [cutPiece, slab, chanList, map_mul_range, cart_std3, pick_range data _ hd, listTake_range])
        ks hsorted
    | epoch =>
      exact split_axis .epoch ⟨[e, c, n], data, s0, fs, .many l, .many ms⟩ 3 [] [c, n] [] [axis c n, List.range n] (c * n) e
        rfl (by simp [axis_length]) rfl rfl
        (fun ps hlt x => WF.d3 _ c n _ _ _ _ _ (by simp [pick, cart_length, prod_cons, prod_nil, axis_length]) hl
          (listTake_length ms _ (hm ▸ hlt)))
        (fun s _ => by
          simpa [cutPiece, slab, cutIndex, metaList] using
            slice_e3 data s0 fs s _ e c n l ms hm (slicePositions_unit s e (by simp [*])))
        (by subst hm; simp [cutPiece, slab, metaList, map_mul_range, cart_std3, pick_range data _ hd, listTake_range])
        ks hsorted

/-- `concat([x[:k], x[k:]]) = x` for any `k ∈ ℤ`, on every axis. -/
theorem concat_split_one (a : PD) (hwf : WF a) (dim : Dim) (hk : dim.k ≤ a.ndim) (k : Int) :
    ∃ p1 p2, getitem a (cutIndex a.ndim dim ⟨none, some k, none⟩) = .ok (.arr p1) ∧
      getitem a (cutIndex a.ndim dim ⟨some k, none, none⟩) = .ok (.arr p2) ∧
      concat [p1, p2] dim = .ok a := by
  obtain ⟨pieces, h1, _, h3⟩ := concat_split a hwf dim hk [k] (by simp)
  simp only [cutSlices, cutSlicesFrom, List.mapM_cons, List.mapM_nil] at h1
  cases e1 : getArr Fixes.all a (cutIndex a.ndim dim ⟨none, some k, none⟩) with
  | error e => rw [e1] at h1; cases h1
  | ok p1 =>
    cases e2 : getArr Fixes.all a (cutIndex a.ndim dim ⟨some k, none, none⟩) with
    | error e => rw [e1, e2] at h1; cases h1
    | ok p2 =>
      rw [e1, e2] at h1
      cases h1
      exact ⟨p1, p2, (getArr_iff _ _ _).1 e1, (getArr_iff _ _ _).1 e2, h3⟩

/-- `concat` raises `ValueError` if some piece has another rate, or (time axis) does not start at the sample after
the previous piece's last, or has other channel labels (unless channels are concatenated) or other metadata (unless
epochs are). -/
theorem concat_rejects (dim : Dim) (base : PD) (rest : List PD) (hwf : ∀ b ∈ base :: rest, WF b)
    (hnd : ∀ b ∈ rest, b.ndim = base.ndim) (hk : dim.k ≤ base.ndim)
    (hbad : (∃ b ∈ rest, b.fs ≠ base.fs) ∨
      (dim = .time ∧ ∃ i, ∃ h : i < rest.length,
        rest[i].s0 ≠ base.s0 + base.nTime + ((rest.take i).map fun b => (b.nTime : Int)).sum) ∨
      (dim ≠ .channel ∧ ∃ b ∈ rest, b.channel ≠ base.channel) ∨
      (dim ≠ .epoch ∧ ∃ b ∈ rest, b.metadata ≠ base.metadata)) :
    concat (base :: rest) dim = .error .valueError := by
  apply concat_not_joinable dim base rest base.ndim hwf
    (List.forall_mem_cons.2 ⟨rfl, hnd⟩) hk
  rcases hbad with h | ⟨hd, i, hi, h⟩ | h | h
  · exact .inl h
  · refine .inr (.inl ⟨hd, ?_⟩)
    cases hc : checkS0 (base.s0 + base.nTime) rest with
    | false => rfl
    | true => exact absurd ((checkS0_iff rest _).1 hc i hi) h
  · exact .inr (.inr (.inl h))
  · exact .inr (.inr (.inr h))

/-- Adjacent, matching pieces are joined: the result has the first piece's `s0` and `fs`, the labels / metadata of
the pieces in order along a concatenated channel / epoch axis (else the common ones), the axis lengths added, and the
data of `np.concatenate` (`joinData`: for every outer index, the blocks of all pieces in turn). -/
theorem concat_adjacent (dim : Dim) (base : PD) (rest : List PD) (hwf : ∀ b ∈ base :: rest, WF b)
    (hnd : ∀ b ∈ rest, b.ndim = base.ndim) (hk : dim.k ≤ base.ndim)
    (hfs : ∀ b ∈ rest, b.fs = base.fs)
    (hs0 : dim = .time → ∀ (i : Nat) (h : i < rest.length),
      rest[i].s0 = base.s0 + base.nTime + ((rest.take i).map fun b => (b.nTime : Int)).sum)
    (hch : dim ≠ .channel → ∀ b ∈ rest, b.channel = base.channel)
    (hmd : dim ≠ .epoch → ∀ b ∈ rest, b.metadata = base.metadata)
    (hsh : ∀ b ∈ rest, b.shape.take (base.ndim - dim.k) = base.shape.take (base.ndim - dim.k) ∧
      b.shape.drop (base.ndim - dim.k + 1) = base.shape.drop (base.ndim - dim.k + 1)) :
    concat (base :: rest) dim = .ok
      ⟨base.shape.take (base.ndim - dim.k) ++ [((base :: rest).map fun b => b.shape.getD (base.ndim - dim.k) 0).sum] ++
          base.shape.drop (base.ndim - dim.k + 1),
        joinData (base.ndim - dim.k) (prod (base.shape.take (base.ndim - dim.k)))
          ((base :: rest).map fun b => (b.shape, b.data)),
        base.s0, base.fs, joinChan dim base (base :: rest), joinMeta dim base (base :: rest)⟩ :=
  concat_adjacent_core dim base rest hwf
    (List.forall_mem_cons.2 ⟨rfl, hnd⟩) hk
    ⟨hfs, fun hd => (checkS0_iff rest _).2 (hs0 hd), hch, hmd⟩ hsh

/-- `concat_split_one` for the bare form `x[:k]`, `x[k:]` of a 1-D array. -/
theorem concat_split_time_1d (n : Nat) (data : List Nat) (s0 : Int) (fs : Rat) (lab : Label) (m : Md)
    (hd : data.length = n) (k : Int) :
    ∃ p1 p2, getitem ⟨[n], data, s0, fs, .one lab, .one m⟩ (.one (.slice ⟨none, some k, none⟩)) = .ok (.arr p1) ∧
      getitem ⟨[n], data, s0, fs, .one lab, .one m⟩ (.one (.slice ⟨some k, none, none⟩)) = .ok (.arr p2) ∧
      concat [p1, p2] .time = .ok ⟨[n], data, s0, fs, .one lab, .one m⟩ := by
  have hbare : ∀ s : PySlice, s.step = none → getitem ⟨[n], data, s0, fs, .one lab, .one m⟩ (.one (.slice s)) =
      getitem ⟨[n], data, s0, fs, .one lab, .one m⟩ (cutIndex 1 .time s) := fun s hs =>
    have H := slice_t1 data s0 fs s 1 _ n lab m (by omega) (by simp [hs]) (slicePositions_unit s n (by simp [hs]))
    (H _ (by simp)).trans (H _ (by simp [cutIndex])).symm
  rw [hbare _ rfl, hbare _ rfl]
  exact concat_split_one _ (WF.d1 n data s0 fs lab m hd) .time (Nat.le_refl 1) k

/-- `concat_rejects` for two 1-D pieces. -/
theorem concat_rejects_1d (n1 n2 : Nat) (d1 d2 : List Nat) (s0 s0' : Int) (fs fs' : Rat) (lab lab' : Label) (m m' : Md)
    (h1 : d1.length = n1) (h2 : d2.length = n2)
    (hbad : s0' ≠ s0 + n1 ∨ fs' ≠ fs ∨ lab' ≠ lab ∨ m' ≠ m) :
    concat [⟨[n1], d1, s0, fs, .one lab, .one m⟩, ⟨[n2], d2, s0', fs', .one lab', .one m'⟩] .time =
      .error .valueError := by
  apply concat_rejects .time ⟨[n1], d1, s0, fs, .one lab, .one m⟩ [⟨[n2], d2, s0', fs', .one lab', .one m'⟩]
    (by simp [WF.d1 _ _ _ _ _ _ h1, WF.d1 _ _ _ _ _ _ h2]) (by simp [PD.ndim]) (Nat.le_refl 1)
  rcases hbad with h | h | h | h
  · exact .inr (.inl ⟨rfl, 0, by simp, by simpa [PD.nTime] using h⟩)
  · exact .inl ⟨_, List.mem_singleton_self _, h⟩
  · exact .inr (.inr (.inl ⟨by decide, _, List.mem_singleton_self _, by simpa using h⟩))
  · exact .inr (.inr (.inr ⟨by decide, _, List.mem_singleton_self _, by simpa using h⟩))

/-- `concat_adjacent` for two 1-D pieces: data appended, annotations of the first piece. -/
theorem concat_adjacent_1d (n1 n2 : Nat) (d1 d2 : List Nat) (s0 : Int) (fs : Rat) (lab : Label) (m : Md)
    (h1 : d1.length = n1) (h2 : d2.length = n2) :
    concat [⟨[n1], d1, s0, fs, .one lab, .one m⟩, ⟨[n2], d2, s0 + n1, fs, .one lab, .one m⟩] .time =
      .ok ⟨[n1 + n2], d1 ++ d2, s0, fs, .one lab, .one m⟩ := by
  rw [concat_adjacent .time ⟨[n1], d1, s0, fs, .one lab, .one m⟩ [⟨[n2], d2, s0 + n1, fs, .one lab, .one m⟩]
    (by simp [WF.d1 _ _ _ _ _ _ h1, WF.d1 _ _ _ _ _ _ h2]) (by simp [PD.ndim]) (Nat.le_refl 1) (by simp) (by simp [PD.nTime]) (by simp) (by simp) (by simp [PD.ndim, Dim.k])]
  subst h1 h2
  simp [PD.ndim, Dim.k, joinData, blockLen, prod_single, prod_nil, joinChan, joinMeta]

/-- Arithmetic, copies and dtype casts keep annotations: `__array_finalize__` on a result of the same shape copies
`s0`, `fs`, channel and metadata. -/
theorem finalize_keeps (a : PD) (hwf : WF a) (data' : List Nat) :
    (finalize a a.shape data').s0 = a.s0 ∧ (finalize a a.shape data').fs = a.fs ∧
    (finalize a a.shape data').channel = a.channel ∧ (finalize a a.shape data').metadata = a.metadata ∧
    (finalize a a.shape data').shape = a.shape := by
  cases hwf with
  | d1 n data s0 fs lab m hd => cases lab <;> simp [finalize]
  | d2 c n data s0 fs l m hd hl => simp [finalize]
  | d3 e c n data s0 fs l ms hd hl hm => simp [finalize]

/-- the oracle's "counts equal the axis lengths": a channel list has `shape[-2]` entries, a metadata list `shape[-3]`
(`shape[-2]` on a 2-D result); lists only on ≥ 2-D results. -/
def countsMatch (r : PD) : Prop :=
  (∀ l, r.channel = .many l → 2 ≤ r.ndim ∧ l.length = shapeM2 r.shape) ∧
  (∀ ms, r.metadata = .many ms → 2 ≤ r.ndim ∧ ms.length = (if 3 ≤ r.ndim then shapeM3 r.shape else shapeM2 r.shape))

theorem selShape_length_le (sel : Sel) : (selShape sel).length ≤ 1 := by cases sel <;> simp [selShape]

/-- `A`, `B` are the (at most one each) axes left by the epoch and the channel entry. -/
theorem countsMatch_axes (A B : List Nat) (hA : A.length ≤ 1) (hB : B.length ≤ 1) (t : Nat) (d : List Nat) (S : Int)
    (F : Rat) (ch : Chan) (md : Meta) (hc : chanCount ch = B.head?) (hm : metaCount md = A.head?) :
    countsMatch ⟨A ++ B ++ [t], d, S, F, ch, md⟩ := by
  constructor
  · intro l' hl'
    obtain rfl : ch = .many l' := hl'
    obtain _ | ⟨b, _ | _⟩ := B
    · cases hc
    · obtain rfl : l'.length = b := by simpa [chanCount] using hc
      simp [PD.ndim, shapeM2]
    · simp at hB
  · intro ms' hms'
    obtain rfl : md = .many ms' := hms'
    obtain _ | ⟨a, _ | _⟩ := A
    · cases hm
    · obtain rfl : ms'.length = a := by simpa [metaCount] using hm
      obtain _ | ⟨b, _ | _⟩ := B
      · simp [PD.ndim, shapeM2]
      · simp [PD.ndim, shapeM3]
      · simp at hB
    · simp at hA

/-- C11-KF1 boundary, inside.  `x[eIt, cIt, ts]` on a 3-D array with at most one of `eIt`, `cIt` a list/mask: indexing
succeeds, every entry keeps its own axis, the labels / metadata are those of the selected rows, and their counts equal
the lengths of these axes (`countsMatch`, the harness oracle's check). -/
theorem single_advanced_counts (e c n : Nat) (data : List Nat) (s0 : Int) (fs : Rat) (l : List Label) (ms : List Md)
    (hl : l.length = c) (hm : ms.length = e) (eIt cIt : Item) (he : eIt.simple ∧ eIt.selects)
    (hc : cIt.simple ∧ cIt.selects) (ts : PySlice) (selE selC : Sel) (tps : List Nat)
    (hE : itemSel eIt e = .ok selE) (hC : itemSel cIt c = .ok selC) (hT : slicePositions ts n = .ok tps)
    (h1 : ¬ (selE.isFancy = true ∧ selC.isFancy = true)) :
    ∃ r, getitem ⟨[e, c, n], data, s0, fs, .many l, .many ms⟩ (.tuple [eIt, cIt, .slice ts]) = .ok (.arr r) ∧
      r.shape = selShape selE ++ selShape selC ++ [tps.length] ∧
      r.channel = selChan l selC ∧ r.metadata = selMeta ms selE ∧
      chanCount r.channel = (selShape selC).head? ∧ metaCount r.metadata = (selShape selE).head? ∧
      countsMatch r := by
  have fe := (Item.simple_flags he.1).2.1
  have fc := (Item.simple_flags hc.1).2.1
  obtain ⟨sel, hnp, hsh⟩ := npOfSels_single selE selC tps (c * n) n (itemSel_ne_new fe hE) (itemSel_ne_new fc hC) h1
  rw [← npGetitem_3d_three fe fc hE hC hT] at hnp
  have hg := getitem_ecs e c n data s0 fs l ms hl hm eIt cIt he.1 hc.1 ts selE selC hE hC (slicePositions_step hT) sel hnp
  have hcl := selChan_count l selC (hl ▸ itemSel_lt hc.2 hC)
  have hml := selMeta_count ms selE (hm ▸ itemSel_lt he.2 hE)
  rw [hsh] at hg
  exact ⟨_, hg, rfl, rfl, rfl, hcl, hml,
    countsMatch_axes _ _ (selShape_length_le selE) (selShape_length_le selC) _ _ _ _ _ _ hcl hml⟩

/-- C11-KF1 boundary, outside.  With a list/mask on the epoch and on the channel axis NumPy pairs the two lists
element-wise: whenever indexing returns at all, the two selected axes are merged into one of the broadcast length `k`,
while `len(pc)` labels and `len(pe)` metadata entries are attached.  The counts equal the axis length iff the two lists
have the same length, so the finding consists exactly of the expressions with two list/mask entries of different
lengths (one of them of length 1, broadcast). -/
theorem two_advanced_boundary (e c n : Nat) (data : List Nat) (s0 : Int) (fs : Rat) (l : List Label) (ms : List Md)
    (hl : l.length = c) (hm : ms.length = e) (eIt cIt : Item) (he : eIt.simple) (hc : cIt.simple) (ts : PySlice)
    (pe pc tps : List Nat) (hE : itemSel eIt e = .ok (.fancy pe)) (hC : itemSel cIt c = .ok (.fancy pc))
    (hT : slicePositions ts n = .ok tps) (res : Res)
    (hres : getitem ⟨[e, c, n], data, s0, fs, .many l, .many ms⟩ (.tuple [eIt, cIt, .slice ts]) = .ok res) :
    ∃ r k, res = .arr r ∧ r.shape = [k, tps.length] ∧
      r.channel = .many (listTake l pc) ∧ r.metadata = .many (listTake ms pe) ∧
      (listTake l pc).length = pc.length ∧ (listTake ms pe).length = pe.length ∧
      (countsMatch r ↔ pe.length = pc.length) := by
  have fe := (Item.simple_flags he).2.1
  have fc := (Item.simple_flags hc).2.1
  have hnpe := npGetitem_3d_three fe fc hE hC hT
  cases hnp : npGetitem [e, c, n] [eIt, cIt, .slice ts] with
  | error err =>
    simp [getitem, getitemG, Index.items, hnp] at hres
  | ok sel =>
    have hg := getitem_ecs e c n data s0 fs l ms hl hm eIt cIt he hc ts _ _ hE hC (slicePositions_step hT) sel hnp
    rw [hg] at hres
    cases hres
    rw [hnpe] at hnp
    obtain ⟨k, hk, hiff⟩ := npOfSels_two pe pc tps (c * n) n sel hnp
    have hlc : (listTake l pc).length = pc.length := listTake_length l pc (hl ▸ (itemSel_nsel fc hC).fancy_lt)
    have hlm : (listTake ms pe).length = pe.length := listTake_length ms pe (hm ▸ (itemSel_nsel fe hE).fancy_lt)
    refine ⟨_, k, rfl, hk, rfl, rfl, hlc, hlm, ?_⟩
    rw [← hiff]
    simp only [countsMatch, selChan, selMeta, hk, PD.ndim, shapeM2, shapeM3]
    simp [hlc, hlm]
    omega

/-- C11-KF1, the witness pinned by the repository's test (`data3d[[0, 2], [0]]`): one merged axis of length 2, one
channel label, two metadata entries. -/
theorem kf1_counterexample :
    (getitem ⟨[3, 2, 1], [0, 1, 2, 3, 4, 5], 0, 1, .many [some "a", some "b"], .many [10, 11, 12]⟩
        (.tuple [.ilist [0, 2], .ilist [0]])).toOption.map
      (fun r => match r with | .arr b => (b.shape, b.channel, b.metadata) | .scalar _ => ([], .one none, .one 0)) =
      some ([2, 1], .many [some "a"], .many [10, 12]) := by
  decide +kernel

/-- The code as found (`getitemOrig`), defect 17: `x[-2:]` on one sample moves `s0` from 0 to −1. -/
theorem orig_slice_start_counterexample :
    (getitemOrig ⟨[1], [0], 0, 1, .one none, .one 0⟩ (.one (.slice ⟨some (-2), none, none⟩))).toOption.map
      (fun r => match r with | .arr b => (b.shape, b.s0) | .scalar _ => ([], 0)) = some ([1], -1) := by
  decide +kernel

/-- The code as found, defect 18: a boolean list on the channel axis is used as integer positions:
`[True, False, True]` on labels `a, b, c` yields three labels `b, a, b` for the two selected rows. -/
theorem orig_channel_mask_counterexample :
    (getitemOrig ⟨[3, 1], [0, 1, 2], 0, 1, .many [some "a", some "b", some "c"], .one 0⟩
        (.one (.blist [true, false, true]))).toOption.map
      (fun r => match r with | .arr b => (b.shape, b.channel) | .scalar _ => ([], .one none)) =
      some ([2, 1], .many [some "b", some "a", some "b"]) := by
  decide +kernel

/-- The code as found, defect 19: an integer ndarray without a zero entry is taken for an all-True mask:
`x[np.array([1, 2])]` on three epochs keeps all three metadata entries for the two selected epochs. -/
theorem orig_intarray_counterexample :
    (getitemOrig ⟨[3, 1, 1], [0, 1, 2], 0, 1, .many [none], .many [10, 11, 12]⟩ (.one (.iarr [1, 2]))).toOption.map
      (fun r => match r with | .arr b => (b.shape, b.metadata) | .scalar _ => ([], .one 0)) =
      some ([2, 1, 1], .many [10, 11, 12]) := by
  decide +kernel

-- the repaired model on the same three inputs
example : (getitem ⟨[1], [0], 0, 1, .one none, .one 0⟩ (.one (.slice ⟨some (-2), none, none⟩))).toOption.map
    (fun r => match r with | .arr b => (b.shape, b.s0) | .scalar _ => ([], 0)) = some ([1], 0) := by decide +kernel
example : (getitem ⟨[3, 1], [0, 1, 2], 0, 1, .many [some "a", some "b", some "c"], .one 0⟩
    (.one (.blist [true, false, true]))).toOption.map
    (fun r => match r with | .arr b => (b.shape, b.channel) | .scalar _ => ([], .one none)) =
    some ([2, 1], .many [some "a", some "c"]) := by decide +kernel
example : (getitem ⟨[3, 1, 1], [0, 1, 2], 0, 1, .many [none], .many [10, 11, 12]⟩ (.one (.iarr [1, 2]))).toOption.map
    (fun r => match r with | .arr b => (b.shape, b.metadata) | .scalar _ => ([], .one 0)) =
    some ([2, 1, 1], .many [11, 12]) := by decide +kernel

example : WF ⟨[2, 3], [0, 1, 2, 3, 4, 5], -7, 1728, .many [some "a", some "b"], .one 0⟩ :=
  WF.d2 2 3 _ _ _ _ _ rfl rfl
example : WF ⟨[2, 1, 3], [0, 1, 2, 3, 4, 5], 5, 1728, .many [none], .many [0, 1]⟩ :=
  WF.d3 2 1 3 _ _ _ _ _ rfl rfl rfl
-- `x[..., -13:]` on 10 samples
example : (⟨some (-13), none, none⟩ : PySlice).step = none ∨ (⟨some (-13), none, none⟩ : PySlice).step = some 1 := .inl rfl
example : startNat ⟨some (-13), none, none⟩ 10 = 0 ∧ stopNat ⟨some (-13), none, none⟩ 10 = 10 := by decide
example : (Item.blist [true, false, true]).selects ∧ itemSel (.blist [true, false, true]) 3 = .ok (.fancy [0, 2]) := by
  exact ⟨trivial, rfl⟩
example : (Item.slice ⟨some (-5), some 9, some 2⟩).selects := .inr ⟨2, by omega, rfl⟩
example : itemSel (.iarr [1, 2]) 3 = .ok (.fancy [1, 2]) := rfl
example : itemSel (.int (-1)) 3 = .ok (.idx 2) := rfl
-- the second piece starts one sample late
example : (5 : Int) ≠ 0 + (4 : Nat) ∨ (1 : Rat) ≠ 1 ∨ (none : Label) ≠ none ∨ (0 : Md) ≠ 0 := .inl (by decide)

-- `x[[0, 2], 0, 1:]` on (3, 2, 4): hypotheses of `single_advanced_counts`
example : (Item.ilist [0, 2]).simple ∧ (Item.ilist [0, 2]).selects ∧ (Item.int 0).simple ∧ (Item.int 0).selects ∧
    itemSel (.ilist [0, 2]) 3 = .ok (.fancy [0, 2]) ∧ itemSel (.int 0) 2 = .ok (.idx 0) ∧
    slicePositions ⟨some 1, none, none⟩ 4 = .ok [1, 2, 3] ∧
    ¬ ((Sel.fancy [0, 2]).isFancy = true ∧ (Sel.idx 0).isFancy = true) :=
  ⟨trivial, trivial, trivial, trivial, rfl, rfl, rfl, by simp [Sel.isFancy]⟩
-- `x[[0, 2], [0], :]`: hypotheses of `two_advanced_boundary`; lengths differ
example : itemSel (.ilist [0, 2]) 3 = .ok (.fancy [0, 2]) ∧ itemSel (.ilist [0]) 2 = .ok (.fancy [0]) ∧
    ([0, 2] : List Nat).length ≠ ([0] : List Nat).length := ⟨rfl, rfl, by decide⟩
-- two 3-D pieces joined along the channel axis: `hsh` of `concat_adjacent`
example : ([1, 2, 3] : List Nat).take (3 - Dim.channel.k) = ([1, 1, 3] : List Nat).take (3 - Dim.channel.k) ∧
    ([1, 2, 3] : List Nat).drop (3 - Dim.channel.k + 1) = ([1, 1, 3] : List Nat).drop (3 - Dim.channel.k + 1) := by decide
-- cuts `[-1, 5]` on the channel axis (2 channels): clamped to `[1, 2]`
example : Dim.channel.k ≤ PD.ndim ⟨[2, 2, 1], [0, 1, 2, 3], 5, 1728, .many [none, some "b"], .many [0, 1]⟩ ∧
    (([-1, 5] : List Int).map (clampPos · (axisLen ⟨[2, 2, 1], [0, 1, 2, 3], 5, 1728, .many [none, some "b"], .many [0, 1]⟩
      .channel))).Pairwise (· ≤ ·) := by decide
example : WF ⟨[2, 2, 1], [0, 1, 2, 3], 5, 1728, .many [none, some "b"], .many [0, 1]⟩ :=
  WF.d3 2 2 1 _ _ _ _ _ rfl rfl rfl
-- two 2-D pieces, the second one sample late: `hbad` of `concat_rejects` at `i = 0`
example : (⟨[1, 2], [2, 3], 3, 1, .many [none], .one 0⟩ : PD).s0 ≠
    (⟨[1, 2], [0, 1], 0, 1, .many [none], .one 0⟩ : PD).s0 + (⟨[1, 2], [0, 1], 0, 1, .many [none], .one 0⟩ : PD).nTime +
      (([] : List PD).map fun b => (b.nTime : Int)).sum := by decide

end Psi.PData

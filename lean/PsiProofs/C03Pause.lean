import PsiProofs.Helper.C03_PauseFifo
import PsiProofs.Helper.C03_PausePolicy
import PsiProofs.C03
/-!
C03 across pauses — what can be said about the policy ORDER.

Histories are arbitrary lists over {pop n, pause m, pause(), resume m, resume()} (`runOps`, C04) from
a queue as `append` builds it and before anything was played (`Started`). `generated` is the log of
non-cancelled trials, `added` (`keyLog`) the full notification log, cancelled trials included.

`pause` rewinds nothing in the policy (cursor, block, random streams); it only re-inserts at the front of
the ordering the keys of cancelled trials that had left it. Hence the policy order holds across pauses
for the FULL notification log (interleaved, blocked random), for the non-cancelled log only in FIFO
queues and there only when time never runs backwards (`HistMono`) and no declared duration overlaps the
next trial (`DurOK`); the `…_counterexample`s show what fails otherwise.
-/
namespace Psi.Queue

/-- a queue as the constructor and ≥ 1 `append`s leave it (`started_by_append`) -/
structure Started (s : QState) : Prop where
  loaded : Loaded s
  gen : s.generated = []
  rem : s.removed = []
  req : ∀ (i : Nat) (e : Entry), s.data[i]? = some e → e.trials = e.requested

theorem Started.good {s : QState} (h : Started s) : Good s :=
  Good_init h.gen h.rem h.loaded.added h.loaded.source
    (fun i e he => ⟨(h.loaded.entries i e he).1, h.req i e he⟩)

/-- `Started` is what the constructor and ≥ 1 `append`s build, for every policy and option. -/
theorem started_by_append (kind : Kind) (keep : Bool) (gsize : Nat) (auto : Bool) (draws : List Nat)
    (perms : List (List Nat)) (es : List Entry) (hne : es ≠ []) (hes : ∀ e ∈ es, GoodEntry e)
    (hreq : ∀ e ∈ es, e.trials = e.requested) (hg : kind = .grouped → auto = false → 1 ≤ gsize) :
    Started (loadAll (newQueue kind keep gsize auto draws perms) es) := by
  refine ⟨loaded_by_append kind keep gsize auto draws perms es hne hes hg, ?_, ?_, ?_⟩
  · rw [(loadAll_fields _ _).2.2.2.1]; rfl
  · rw [(loadAll_fields _ _).2.2.2.2]; rfl
  · intro i e he
    rw [loadAll_data] at he
    simp only [newQueue, List.nil_append] at he
    exact hreq e (List.mem_of_getElem? he)

theorem TimeInv_init {s : QState} (hg : s.generated = []) (hd : DurOK s.data) : TimeInv s :=
  ⟨by simp [hg], by simp [hg], by simp [hg], hd⟩

section Histories
variable {ops : List Op} {s s' : QState}

/-- Any sequence of positive requests, pauses (accepted or rejected) and resumes on a FIFO queue runs
without an exception. -/
theorem fifo_history_no_exception (hs : Started s) (hk : s.kind = .fifo)
    (hpos : ∀ n, Op.pop n ∈ ops → 0 < n) : ∃ s', runOps ops s = .ok s' :=
  hist_ok (I := FifoH s.data.length) (stepOp_view FifoH_same FifoH_step FifoH_pause)
    (fun n s hw hi => by obtain ⟨cs, s', h, _⟩ := fifo_run n hw hi.fi; exact ⟨_, h⟩)
    hs.loaded.wf (FifoH_init hs.loaded hk hs.gen) hpos

/-- After any history the ordering has no duplicate and holds exactly the stimuli with trials remaining,
so `fifo_log` / `fifo_log_complete` / `fifo_terminal_counts` apply to whatever is requested next. -/
theorem fifo_history_inv (hs : Started s) (hk : s.kind = .fifo) (h : runOps ops s = .ok s') :
    WF s' ∧ FifoInv s' := by
  obtain ⟨hw, hi⟩ := hist_inv' (I := FifoH s.data.length) (stepOp_view FifoH_same FifoH_step FifoH_pause)
    hs.loaded.wf (FifoH_init hs.loaded hk hs.gen) h
  exact ⟨hw, hi.fi⟩

theorem fifo_sched_run (hs : Started s) (hk : s.kind = .fifo) (hd : DurOK s.data)
    (hm : HistMono ops s) (h : runOps ops s = .ok s') :
    TimeInv s' ∧ FifoSched s.data.length (reqAt s) s' := by
  have h0 : FifoSched s.data.length (reqAt s) s := by
    refine ⟨FifoH_init hs.loaded hk hs.gen, ?_, ?_⟩
    · rw [hs.loaded.ordering]; exact List.pairwise_lt_range
    · simp [hs.gen, remSeq, schedule, hs.loaded.ordering]
  exact (hist_inv
    (stepOp_inv (I := fun s' => TimeInv s' ∧ FifoSched s.data.length (reqAt s) s') (C := OpMono)
      (fun hi h => ⟨TimeInv_tick hi.1 h, FifoSched_tick hi.2 h⟩)
      (fun m _ hi hc => ⟨TimeInv_pause m hi.1 hc, FifoSched_pause m hi.1 hi.2⟩)
      (fun m _ hi hc => ⟨TimeInv_resume m hi.1 hc, FifoSched_resume m hi.2⟩))
    hs.loaded.wf ⟨TimeInv_init hs.gen hd, h0⟩ hm h).2

/-- FIFO order across pauses. If time never runs backwards in the history (every `pause(m)` is accepted,
every `resume(m₂)` is at or after the clock) and no stimulus declares a duration reaching into the next
trial, then at every point the non-cancelled presentations followed by everything still to come are the
insertion-order schedule: `requeue` restores the cancelled suffix, in order. -/
theorem fifo_schedule_across_pauses (hs : Started s) (hk : s.kind = .fifo) (hd : DurOK s.data)
    (hm : HistMono ops s) (h : runOps ops s = .ok s') :
    s'.generated.map (·.key) ++ remSeq s' = schedule s.data.length (reqAt s) ∧
    s'.ordering.Pairwise (· < ·) :=
  ⟨(fifo_sched_run hs hk hd hm h).2.sched, (fifo_sched_run hs hk hd hm h).2.sorted⟩

/-- The non-cancelled FIFO log is a prefix of the schedule, and the stimuli still pending come after
everything presented, in insertion order. -/
theorem fifo_kept_log_prefix (hs : Started s) (hk : s.kind = .fifo) (hd : DurOK s.data)
    (hm : HistMono ops s) (h : runOps ops s = .ok s') :
    s'.generated.map (·.key) <+: schedule s.data.length (reqAt s) ∧
    (s'.generated.map (·.key)).Pairwise (· ≤ ·) ∧
    ∀ i ∈ s'.generated, ∀ k ∈ s'.ordering, i.key ≤ k := by
  obtain ⟨hsch, _⟩ := fifo_schedule_across_pauses hs hk hd hm h
  have hsorted := schedule_sorted s.data.length (reqAt s)
  rw [← hsch] at hsorted
  refine ⟨⟨_, hsch⟩, (List.pairwise_append.mp hsorted).1, ?_⟩
  intro i hi k hk'
  have hfi := (fifo_sched_run hs hk hd hm h).2.h.fi
  have hmem : k ∈ remSeq s' := mem_rs_of_pos hk' ((PF_of_FifoInv hfi rfl).pos k hk').2
  exact (List.pairwise_append.mp hsorted).2.2 i.key (List.mem_map.mpr ⟨i, hi, rfl⟩) k hmem

/-- Every policy: under the same side conditions the non-cancelled log is ordered in time, so the logged
trials ending after any position `m` are a suffix: a pause never removes a trial from the middle. -/
theorem pause_cancels_most_recent (hs : Started s) (hd : DurOK s.data) (hm : HistMono ops s)
    (h : runOps ops s = .ok s') (m : Int) :
    s'.generated = s'.generated.filter (fun i => !endsAfter m i) ++ s'.generated.filter (endsAfter m) ∧
    s'.generated.Pairwise (fun a b => a.k + a.dur ≤ b.k) := by
  have ht := (hist_inv (I := TimeInv) (C := OpMono)
    (stepOp_inv TimeInv_tick TimeInv_pause TimeInv_resume) hs.loaded.wf (TimeInv_init hs.gen hd) hm h).2
  exact ⟨cancelled_suffix ht m, ht.chain⟩

theorem interleaved_run (hs : Started s) (hk : s.kind = .interleaved) (h : runOps ops s = .ok s') :
    HIL s.data.length s.keep s' :=
  (hist_inv' (I := HIL s.data.length s.keep) (stepOp_view HIL_of_same HIL_step HIL_pause)
    hs.loaded.wf (HIL_init hs.loaded hk hs.gen) h).2

/-- Interleaved, completed waveforms kept: after any history notification `j` (cancelled or not) is
stimulus `j % n`; the first trial after a resume is the stimulus after the last one notified before
the pause, even when that trial was cancelled. -/
theorem interleaved_full_log_round_robin (hs : Started s) (hk : s.kind = .interleaved)
    (hkeep : s.keep = true) (h : runOps ops s = .ok s') (j : Nat) (hj : j < (keyLog s').length) :
    (keyLog s')[j] = j % s.data.length := by
  have hi := interleaved_run hs hk h
  exact hi.rr (hi.keep.trans hkeep) j hj

/-- Interleaved, either option: after any history the cursor is the stimulus of the most recently
notified trial (−1 before the first), whether or not that trial was cancelled. -/
theorem interleaved_cursor_after_history (hs : Started s) (hk : s.kind = .interleaved)
    (h : runOps ops s = .ok s') :
    s'.cursor = lastOr (keyLog s') ∧ s'.ordering = List.range s.data.length ∧
    (s'.complete = true ↔ ∀ k, k < s.data.length → trialsOf s' k ≤ 0) := by
  have hi := interleaved_run hs hk h
  exact ⟨hi.cur, hi.ci.ord, hi.ci.compl⟩

/-- Interleaved, completed waveforms dropped: if the queue is not complete, the next trial is the first
stimulus with a positive counter (= fewer non-cancelled presentations than requested, by `conservation`)
found going round from the stimulus of the last NOTIFIED trial. -/
theorem interleaved_nokeep_next_after_history (hs : Started s) (hk : s.kind = .interleaved)
    (h : runOps ops s = .ok s') (hkeep : s'.keep = false) (hc : s'.complete = false) :
    ∃ d : Nat, 1 ≤ d ∧ d ≤ s.data.length ∧
      nextKey s' = .ok (some (((lastOr (keyLog s') + (d : Int)) % (s.data.length : Int)).toNat,
        { s' with cursor := (lastOr (keyLog s') + (d : Int)) % (s.data.length : Int) })) ∧
      0 < trialsOf s' ((lastOr (keyLog s') + (d : Int)) % (s.data.length : Int)).toNat ∧
      ∀ t : Nat, 1 ≤ t → t < d →
        trialsOf s' ((lastOr (keyLog s') + (t : Int)) % (s.data.length : Int)).toNat ≤ 0 := by
  have hi := interleaved_run hs hk h
  have := nextKey_interleaved_nokeep hi.ci.npos hi.kind hkeep hi.ci.ord hc
    ((open_closed_of_iff hi.ci.compl).1 hc)
  rw [hi.cur] at this
  exact this

theorem blocked_run (hs : Started s) (hk : s.kind = .blockedRandom)
    (hp : ∀ p ∈ s.perms, p.Perm (List.range s.data.length)) (h : runOps ops s = .ok s') :
    HBR s.data.length s.perms s' :=
  (hist_inv' (I := HBR s.data.length s.perms) (stepOp_view HBR_of_same HBR_step HBR_pause)
    hs.loaded.wf (HBR_init hs.loaded hk hs.gen hp) h).2

/-- Blocked random: after any history the full notification log (cancelled trials included) followed by
what is left of the current shuffle (`block`, read from its end) is the first `b` shuffles of the oracle:
the trials after a resume are the rest of the shuffle that was being played, then fresh shuffles.
Cancelled trials are not put back into a block; later whole blocks make up for them. -/
theorem blocked_random_full_log (hs : Started s) (hk : s.kind = .blockedRandom)
    (hp : ∀ p ∈ s.perms, p.Perm (List.range s.data.length)) (h : runOps ops s = .ok s') :
    (∃ b, b ≤ s.perms.length ∧ s'.perms = s.perms.drop b ∧
      keyLog s' ++ s'.block.reverse = (s.perms.take b).flatMap List.reverse) ∧
    s'.block.length < s.data.length ∧ keyLog s' <+: s.perms.flatMap List.reverse := by
  have hi := blocked_run hs hk hp h
  obtain ⟨b, hb, hperms, hcat⟩ := hi.blocks
  refine ⟨⟨b, hb, hperms, hcat⟩, hi.blockLt.1, ⟨s'.block.reverse ++ (s.perms.drop b).flatMap List.reverse, ?_⟩⟩
  rw [← List.append_assoc, hcat, ← List.flatMap_append, List.take_append_drop]

/-- Interleaved / blocked random, at every point of every history: the completion flag is set exactly
when no counter is positive, i.e. (`conservation`, C04) when every stimulus has its requested number of
NON-CANCELLED presentations; a pause that cancels trials re-opens the queue. -/
theorem complete_iff_satisfied (hs : Started s) (hk : s.kind = .interleaved ∨ s.kind = .blockedRandom)
    (hp : s.kind = .blockedRandom → ∀ p ∈ s.perms, p.Perm (List.range s.data.length))
    (h : runOps ops s = .ok s') :
    s'.complete = true ↔ ∀ (k : Nat) (e : Entry), s'.data[k]? = some e → e.requested ≤ keptOf s' k := by
  have hci : CI s.data.length s' := by
    rcases hk with hk | hk
    · exact (interleaved_run hs hk h).ci
    · exact (blocked_run hs hk (hp hk) h).ci
  have hcons := conservation hs.good h
  rw [hci.compl]
  constructor
  · intro hall k e he
    obtain ⟨hlt, _⟩ := List.getElem?_eq_some_iff.mp he
    have := hall k (by rw [← hci.len]; exact hlt)
    have := hcons k e he
    simp only [trv, he] at *
    omega
  · intro hall k hk'
    have hkd : k < s'.data.length := by rw [hci.len]; exact hk'
    have he : s'.data[k]? = some s'.data[k] := List.getElem?_eq_getElem hkd
    have := hall k _ he
    have := hcons k _ he
    simp only [trv, he]
    omega

end Histories

/-- `pause(m)` (accepted or rejected) leaves the round-robin cursor, the unconsumed block and both random
streams alone; the keys of cancelled trials that had left the ordering are re-inserted at its front
(walking the cancelled trials latest first). -/
theorem pause_keeps_cursor (m : Int) (s : QState) :
    (pause (some m) s).1.cursor = s.cursor ∧ (pause (some m) s).1.block = s.block ∧
    (pause (some m) s).1.perms = s.perms ∧ (pause (some m) s).1.draws = s.draws ∧
    (pause (some m) s).1.ordering = insertFront s.ordering (toRequeue m s) ∧
    ((∀ i ∈ s.generated, endsAfter m i = true → i.key ∈ s.ordering) →
      (pause (some m) s).1.ordering = s.ordering) := by
  obtain ⟨ho, _, _, _, _, _, h2, h3, h4, h5, _⟩ := pause_policy m s
  refine ⟨h2, h3, h4, h5, ho, ?_⟩
  intro hall
  rw [ho]
  apply insertFront_of_mem
  intro k hk
  simp only [toRequeue, List.mem_map, List.mem_filter, List.mem_reverse] at hk
  obtain ⟨i, ⟨hi, he⟩, rfl⟩ := hk
  exact hall i hi he

def stim (len : Nat) (trials : Int) (delay : Int) (dur : Int) : Entry :=
  ⟨len, false, trials, trials, [delay], 0, dur⟩

def mkQ (kind : Kind) (keep : Bool) (gsize : Nat) (es : List Entry) : QState :=
  loadAll (newQueue kind keep gsize false (List.range 40) demoPerms) es

theorem stim_good {len : Nat} {trials delay dur : Int} (h1 : 0 < len) (h2 : 1 ≤ trials) (h3 : 0 ≤ delay) :
    GoodEntry (stim len trials delay dur) :=
  ⟨h1, h2, by simp [stim], by simp [stim]; exact h3⟩

example (kind : Kind) (keep : Bool) :
    Started (mkQ kind keep 2 [stim 10 2 0 10, stim 10 2 0 10, stim 10 2 0 10]) :=
  started_by_append kind keep 2 false _ _ _ (by simp)
    (by intro e he; simp at he; subst he; exact stim_good (by decide) (by decide) (by decide))
    (by intro e he; simp at he; subst he; rfl) (fun _ _ => by decide)

example (kind : Kind) (keep : Bool) :
    DurOK (mkQ kind keep 2 [stim 10 2 0 10, stim 10 2 0 10, stim 10 2 0 10]).data := by
  intro i e he
  simp only [mkQ, loadAll_data, newQueue, List.nil_append] at he
  have := List.mem_of_getElem? he
  simp at this; subst this
  simp [stim]

def hist1 : List Op := [.pop 40, .pause (some 25), .resume (some 25), .pop 60]

example (q : QState) (hw : WF q) (hq : q.samples = 0) : HistMono hist1 q := by
  have hclock : ∀ s1, stepOp q (.pop 40) = .ok s1 → s1.samples = 40 := by
    intro s1 h1
    simp only [stepOp] at h1
    cases hp : popBuffer 40 q with
    | error e => simp [hp] at h1
    | ok r =>
      simp only [hp, Except.ok.injEq] at h1
      subst h1
      have := (clock_eq hw hp).1
      omega
  refine ⟨trivial, fun s1 h1 => ⟨?_, fun s2 h2 => ⟨?_, fun _ _ => ⟨trivial, fun _ _ => trivial⟩⟩⟩⟩
  · have := hclock s1 h1
    simp only [OpMono]; omega
  · have h40 := hclock s1 h1
    cases h2
    have := (pause_future_rejected 25 s1).2 (by omega)
    simp only [OpMono]; omega

example : ∀ p ∈ (mkQ .blockedRandom true 0 [stim 10 2 0 10, stim 10 2 0 10, stim 10 2 0 10]).perms,
    p.Perm (List.range (mkQ .blockedRandom true 0 [stim 10 2 0 10, stim 10 2 0 10, stim 10 2 0 10]).data.length) := by
  have hpm : (mkQ .blockedRandom true 0 [stim 10 2 0 10, stim 10 2 0 10, stim 10 2 0 10]).perms = demoPerms :=
    (loadAll_oracle _ _).2
  have hlen : (mkQ .blockedRandom true 0 [stim 10 2 0 10, stim 10 2 0 10, stim 10 2 0 10]).data.length = 3 := by
    rw [mkQ, loadAll_data]; rfl
  rw [hpm, hlen]
  exact demoPerms_perm

/-- FIFO, three stimuli × 2: pause at 25 cancels `1@20, 1@30`, the schedule is kept -/
example : (runOps hist1 (mkQ .fifo true 0 [stim 10 2 0 10, stim 10 2 0 10, stim 10 2 0 10])).toOption.map
    (fun s => (s.generated.map (·.key), s.ordering, keyLog s)) =
    some ([0, 0, 1, 1, 2, 2], [], [0, 0, 1, 1, 1, 1, 2, 2]) := by decide +kernel

/-- FIFO order needs `DurOK`. A stimulus whose declared duration (9) reaches beyond its waveform and
delay (4 + 2): `pop 24; pause 20; pause 17` leaves the ordering `[1, 0]` — stimulus 1 would be presented
before stimulus 0 again. -/
theorem fifo_order_long_duration_counterexample :
    (runOps [.pop 24, .pause (some 20), .pause (some 17)]
      (mkQ .fifo true 0 [stim 4 3 2 9, stim 1 1 0 1])).toOption.map (·.ordering) = some [1, 0] := by
  decide +kernel

/-- FIFO order needs time not to run backwards. With default durations, resuming at positions
before the clock: the ordering ends as `[1, 0]`. -/
theorem fifo_order_backwards_resume_counterexample :
    (runOps [.resume (some 100), .pop 10, .pause (some 110), .resume (some 0), .pop 60, .pause (some 50),
        .resume (some 0), .pop 10, .pause (some 5)]
      (mkQ .fifo true 0 [stim 10 1 0 10, stim 10 1 0 10])).toOption.map (·.ordering) = some [1, 0] := by
  decide +kernel

/-- Interleaved: the non-cancelled log is round-robin only per segment. Three stimuli, `pop 40;
pause 25; resume 25; pop 60`: the full log is `0 1 2 0 1 2 …`, the pause cancels `2@20, 0@30`, the
non-cancelled log reads `0 1 | 1 2 0 1 2 0` — stimulus 1 twice in a row. -/
theorem interleaved_kept_log_counterexample :
    (runOps hist1 (mkQ .interleaved true 0 [stim 10 3 0 10, stim 10 3 0 10, stim 10 3 0 10])).toOption.map
      (fun s => (keyLog s, s.generated.map (·.key))) =
    some ([0, 1, 2, 0, 1, 2, 0, 1, 2, 0], [0, 1, 1, 2, 0, 1, 2, 0]) := by decide +kernel

/-- Blocked random: the non-cancelled log is not a sequence of whole shuffles. Shuffles (read from
the end) `1 0 2 | 1 2 0 | 1 0 2`; `pop 40; pause 25; resume 25; pop 100` cancels `2@20, 1@30`; after the
resume come the rest `2 0` of the second shuffle and a fresh one: the non-cancelled log
`1 0 | 2 0 | 1 0 2` has stimulus 0 twice among its second three entries, and 0 is presented 3 times. -/
theorem blocked_random_kept_log_counterexample :
    (runOps [.pop 40, .pause (some 25), .resume (some 25), .pop 100]
      (mkQ .blockedRandom true 0 [stim 10 2 0 10, stim 10 2 0 10, stim 10 2 0 10])).toOption.map
      (fun s => (keyLog s, s.generated.map (·.key), s.complete)) =
    some ([1, 0, 2, 1, 2, 0, 1, 0, 2], [1, 0, 2, 0, 1, 0, 2], true) := by decide +kernel

/-- Grouped: a pause can re-group stimuli. Four stimuli × 2, group size 2 (groups {0,1}, {2,3});
`pop 80` generates `0 1 0 1 2 3 2 3`; `pause 35` cancels `1@30` and the whole second group; re-queueing
puts the keys back as `[1, 2, 3]`, so stimulus 2 is now grouped with stimulus 1 and the non-cancelled log
ends `… 1 2 1 2 3 3`: group {2,3} is not presented as a group and stimulus 1 is presented 3 times. -/
theorem grouped_pause_regroups_counterexample :
    (runOps [.pop 80, .pause (some 35)]
      (mkQ .grouped true 2 [stim 10 2 0 10, stim 10 2 0 10, stim 10 2 0 10, stim 10 2 0 10])).toOption.map
      (·.ordering) = some [1, 2, 3] ∧
    (runOps [.pop 80, .pause (some 35), .resume (some 35), .pop 100]
      (mkQ .grouped true 2 [stim 10 2 0 10, stim 10 2 0 10, stim 10 2 0 10, stim 10 2 0 10])).toOption.map
      (fun s => s.generated.map (·.key)) = some [0, 1, 0, 1, 2, 1, 2, 3, 3] := by
  constructor <;> decide +kernel

end Psi.Queue

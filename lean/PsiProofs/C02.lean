import PsiProofs.Helper.C02_Timeline
/-!
C02 — queue output is a faithful, chunk-invariant timeline of the notified trials.

`popBuffer` is the code-faithful `while samples > 0` loop (`PsiModel/Queue.lean`), `runTicks` the
per-sample specification (`PsiModel/QueueSpec.lean`). All theorems hold for every policy, every
oracle of random choices and every state reachable or not, under `WF` (every waveform has at
least one sample; the current source is consistent).
-/
namespace Psi.Queue

def popAll : List Nat → QState → Except Err (List Cell × QState)
  | [], s => .ok ([], s)
  | n :: ns, s =>
    match popBuffer n s with
    | .error e => .error e
    | .ok (o, s') =>
      match popAll ns s' with
      | .error e => .error e
      | .ok (os, s'') => .ok (o ++ os, s'')

theorem popBuffer_refinesD {n : Nat} {s : QState} (hw : WF s) (hn : 0 < n) :
    popBuffer n s = runTicksD true n s := by
  unfold popBuffer
  rw [if_neg (Nat.ne_of_gt hn), popLoop_eq_G]
  -- the loop's fuel `3 * n + 3` covers the `3 * n + slack s` iterations that `n` samples can take (`slack s ≤ 2`)
  exact popLoopG_eq_runTicksD true _ _ _ hw (Nat.add_le_add_left (Nat.le_succ_of_le (slack_le s)) _)

/-- One request of any size is `n` steps of the per-sample timeline: same output, same final state
(the `added` log included), same error. -/
theorem popBuffer_refines {n : Nat} {s : QState} (hw : WF s) (hn : 0 < n) :
    popBuffer n s = runTicks n s := by
  rw [popBuffer_refinesD hw hn, runTicksD_true]

/-- `pop_buffer(0)` raises ValueError -/
theorem popBuffer_ok_pos {n : Nat} {s : QState} {r : List Cell × QState} (h : popBuffer n s = .ok r) :
    0 < n := by
  rcases Nat.eq_zero_or_pos n with h0 | h0
  · subst h0; simp [popBuffer] at h
  · exact h0

/-- Output, final state and notification log of `pop_buffer(a+b)` are those of
`pop_buffer(a); pop_buffer(b)`. -/
theorem popBuffer_append {a b : Nat} {s : QState} (hw : WF s) (ha : 0 < a) (hb : 0 < b) :
    popBuffer (a + b) s =
      match popBuffer a s with
      | .error e => .error e
      | .ok (o1, s1) =>
        match popBuffer b s1 with
        | .error e => .error e
        | .ok (o2, s2) => .ok (o1 ++ o2, s2) :=
  append_of_refines popBuffer_refinesD hw ha hb

theorem popAll_eq_runTicksD {ns : List Nat} {s : QState} (hw : WF s) (hpos : ∀ n ∈ ns, 0 < n) :
    popAll ns s = runTicksD true ns.sum s := by
  induction ns generalizing s with
  | nil => rfl
  | cons n ns ih =>
    rw [popAll, List.sum_cons, runTicksD_add, popBuffer_refinesD hw (hpos n List.mem_cons_self)]
    cases h : runTicksD true n s with
    | error e => rfl
    | ok r =>
      obtain ⟨o, s'⟩ := r
      simp only
      rw [ih (runSched_inv _ hw h).1 (fun m hm => hpos m (List.mem_cons_of_mem _ hm))]
      rfl

/-- Any sequence of positive request sizes gives the output, state and `added` log of the single
request of their sum. -/
theorem popAll_eq_popBuffer_sum {ns : List Nat} {s : QState} (hw : WF s) (hpos : ∀ n ∈ ns, 0 < n)
    (hne : ns ≠ []) : popAll ns s = popBuffer ns.sum s := by
  have hsum : 0 < ns.sum := by
    cases ns with
    | nil => exact absurd rfl hne
    | cons m ms => exact Nat.lt_of_lt_of_le (hpos m List.mem_cons_self) (by simp)
  rw [popAll_eq_runTicksD hw hpos, popBuffer_refinesD hw hsum]

/-- A request of `n` samples advances the clock by `n` and returns `n` samples. -/
theorem clock_eq {n : Nat} {s s' : QState} {out : List Cell} (hw : WF s)
    (h : popBuffer n s = .ok (out, s')) : s'.samples = s.samples + (n : Nat) ∧ out.length = n := by
  rw [popBuffer_refines hw (popBuffer_ok_pos h)] at h
  exact (runTicks_inv n hw h).2

/-- From a state with nothing pending, the output followed by what is still
committed equals the rendering of the newly notified trials (each waveform in full, then its
delay in zeros) followed by zeros. -/
theorem timeline {n : Nat} {s s' : QState} {out : List Cell} (hw : WF s) (hf : Fresh s)
    (h : popBuffer n s = .ok (out, s')) :
    ∃ new z, s'.added = s.added ++ new ∧ out ++ rest s' = render new ++ zeros z ∧
      PosOK s.samples new := by
  rw [popBuffer_refinesD hw (popBuffer_ok_pos h)] at h
  exact timeline_sched hf h

/-- The first new trial starts at the clock of the fresh state, each further one `len + delay`
samples after the previous one. -/
theorem gap_exact {n : Nat} {s s' : QState} {out : List Cell} (hw : WF s) (hf : Fresh s)
    (h : popBuffer n s = .ok (out, s')) :
    ∃ new, s'.added = s.added ++ new ∧
      (∀ h0 : 0 < new.length, new[0].k = s.samples) ∧
      (∀ j (hj : j + 1 < new.length),
        new[j + 1].k = new[j].k + (new[j].len : Nat) + (new[j].delay.toNat : Nat)) := by
  obtain ⟨new, z, ha, _, hp⟩ := timeline hw hf h
  exact ⟨new, ha, gap_exact_of hp⟩

/-- From the notified start sample on, the output is the queued
waveform, sample for sample, for its full length (as far as the output reaches). -/
theorem waveform_embedded {n : Nat} {s s' : QState} {out : List Cell} (hw : WF s) (hf : Fresh s)
    (h : popBuffer n s = .ok (out, s')) :
    ∃ new, s'.added = s.added ++ new ∧
      ∀ j (hj : j < new.length) (i : Nat), i < new[j].len →
        ∀ p : Nat, new[j].k + (i : Nat) = s.samples + (p : Nat) → p < n →
          out[p]? = some (Cell.W new[j].key i) := by
  obtain ⟨new, z, ha, he, hp⟩ := timeline hw hf h
  exact ⟨new, ha, waveform_embedded_of he hp (clock_eq hw h).2⟩

/-- Every returned sample is zero or sample `i` of a notified trial located at `k + i`. -/
theorem uncovered_zero {n : Nat} {s s' : QState} {out : List Cell} (hw : WF s) (hf : Fresh s)
    (h : popBuffer n s = .ok (out, s')) :
    ∃ new, s'.added = s.added ++ new ∧
      ∀ p : Nat, p < n → out[p]? = some Cell.Z ∨
        ∃ j, ∃ hj : j < new.length, ∃ i, i < new[j].len ∧ new[j].k + (i : Nat) = s.samples + (p : Nat) ∧
          out[p]? = some (Cell.W new[j].key i) := by
  obtain ⟨new, z, ha, he, hp⟩ := timeline hw hf h
  exact ⟨new, ha, uncovered_zero_of he hp (clock_eq hw h).2⟩

def demo : QState :=
  (append (append { kind := .interleaved } ⟨3, false, 2, 2, [2], 0, 3⟩).1 ⟨2, true, 1, 1, [0, 1], 0, 2⟩).1

example : WF demo ∧ Fresh demo := by
  refine ⟨⟨?_, by simp [demo, append]⟩, by simp [Fresh, demo, append]⟩
  intro i e h
  simp only [demo, append, List.nil_append, List.cons_append] at h
  match i, h with
  | 0, h => simp at h; subst h; decide
  | 1, h => simp at h; subst h; decide
  | n + 2, h => simp at h

example : (popBuffer 9 demo).toOption.map (·.1) =
    some [.W 0 0, .W 0 1, .W 0 2, .Z, .Z, .W 1 0, .W 1 1, .W 0 0, .W 0 1] := by decide +kernel
example : (popAll [4, 1, 4] demo).toOption.map (·.1) = (popBuffer 9 demo).toOption.map (·.1) := by decide +kernel
example : (popBuffer 9 demo).toOption.map (fun r => r.2.added.map (fun i => (i.key, i.k))) =
    some [(0, 0), (1, 5), (0, 7)] := by decide +kernel

end Psi.Queue

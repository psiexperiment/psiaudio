import Mathlib.Analysis.SpecialFunctions.Trigonometric.Basic
import PsiModel.Stim
import PsiProofs.Helper.C09_Book
/-!
# C09 — finite stimuli honour their duration contract and envelope shape

Same model as C01 (`PsiModel/Stim.lean`).  `Stim.total g = some T` singles out the stimuli with
a sample count (GateFactory, EnvelopeFactory, FixedWaveform incl. Repeat).  Histories are
arbitrary chunk lists (`drawAll` / `stateAfter`), including draws past the end.
The hypothesis `g.WFs` follows from the constructor guard `g.WF` (`Stim.WF.wfs`).
-/
namespace Psi.Stim
open Psi.Chunk

/-- `n_samples()` is `round(start*fs) + round(duration*fs)` for gates and envelopes, and the
array length for fixed / repeated waveforms. -/
theorem n_samples_eq (start dur off id : Nat) (p : EnvP) (w : List Cell) (inner : Stim) :
    (Stim.gate start dur off inner).nSamples = .fin (start + dur)
      ∧ (Stim.env id p off inner).nSamples = .fin (p.start + p.dur)
      ∧ (Stim.fixed w off).nSamples = .fin w.length :=
  ⟨rfl, rfl, rfl⟩

/-- One draw of `n` samples decreases `n_samples_remaining()` by `n`, truncated at 0. -/
theorem remaining_decreases (g : Stim) (h : g.WFs) (T : Nat) (hT : g.total = some T) (n : Nat) :
    g.remaining = .fin (T - g.drawn) ∧ (g.next n).2.remaining = .fin (T - g.drawn - n) :=
  ⟨(remaining_of_total g T hT).1, by rw [(remaining_next g h T hT n).1, Nat.sub_add_eq]⟩

/-- Along every draw history `n_samples()` stays and `n_samples_remaining()` is the total minus
everything drawn so far, truncated at 0. -/
theorem remaining_after_history (g : Stim) (h : g.WFs) (T : Nat) (hT : g.total = some T) (ns : List Nat) :
    (stateAfter stimGen g ns).nSamples = .fin T
      ∧ (stateAfter stimGen g ns).remaining = .fin (T - (g.drawn + ns.sum)) := by
  rw [stim_stateAfter_eq g h ns]
  exact ⟨(remaining_next g h T hT _).2.2, (remaining_next g h T hT _).1⟩

/-- `is_complete()` holds exactly when at least `n_samples()` samples have been drawn, along
every history from a freshly reset stimulus. -/
theorem complete_iff_drawn_ge_total (g : Stim) (h : g.WFs) (T : Nat) (hT : g.total = some T)
    (hfresh : g.drawn = 0) (ns : List Nat) :
    (stateAfter stimGen g ns).complete = true ↔ T ≤ ns.sum := by
  rw [stim_stateAfter_eq g h ns, (remaining_next g h T hT _).2.1, hfresh, Nat.zero_add]
  exact decide_eq_true_iff

example : (Stim.gate 3 4 0 (.leaf 0 0)).total = some 7 := rfl
example : (Stim.gate 3 4 0 (.sqenv 1 ⟨7 / 2, 2⟩ 0 (.leaf 0 0))).WFs :=
  Stim.WF.wfs (g := .gate 3 4 0 (.sqenv 1 ⟨7 / 2, 2⟩ 0 (.leaf 0 0))) ⟨by decide +kernel, trivial⟩
example : (stateAfter stimGen (Stim.gate 3 4 0 (.leaf 0 0)) [2, 4, 5]).remaining = .fin 0 := by decide
example : (stateAfter stimGen (Stim.gate 3 4 0 (.leaf 0 0)) [2, 4]).complete = false := by decide

/-- GateFactory: every sample before the start and any amount past the end is the forced zero. -/
theorem gate_zero_outside (start dur off : Nat) (inner : Stim) (h : inner.WFs) (ns : List Nat)
    (i : Nat) (c : Cell) (hc : (drawAll stimGen (.gate start dur off inner) ns)[i]? = some c)
    (hout : off + i < start ∨ start + dur ≤ off + i) : c = .z := by
  rw [stim_drawAll _ (show (Stim.gate start dur off inner).WFs from h)] at hc
  simp only [Stim.next] at hc
  rw [gate_fragment_eq_slice, applyAt_getElem?] at hc
  obtain ⟨x, -, rfl⟩ := Option.map_eq_some_iff.1 hc
  exact if_neg (by omega)

/-- EnvelopeFactory: outside `[start, start+duration)` every sample is the product of an exact zero
envelope value with the carrier sample. -/
theorem envelope_zero_outside (id : Nat) (p : EnvP) (off : Nat) (inner : Stim)
    (h : (Stim.env id p off inner).WFs) (ns : List Nat)
    (i : Nat) (c : Cell) (hc : (drawAll stimGen (.env id p off inner) ns)[i]? = some c)
    (hout : off + i < p.start ∨ p.start + p.dur ≤ off + i) : c.isZero = true := by
  rw [stim_drawAll _ h, next_env _ _ _ _ _ h.1 (Stim.next_length inner h.2 _), applyAt_getElem?] at hc
  obtain ⟨x, -, rfl⟩ := Option.map_eq_some_iff.1 hc
  rw [envAt_outside _ _ _ _ (by have := h.1; omega) _ hout]
  rfl

/-- Fixed / repeated waveform: any amount past the end of the array is the forced zero. -/
theorem fixed_zero_past_end (w : List Cell) (off : Nat) (ns : List Nat) (i : Nat) (c : Cell)
    (hc : (drawAll stimGen (.fixed w off) ns)[i]? = some c) (hout : w.length ≤ off + i) : c = .z := by
  rw [stim_drawAll _ (show (Stim.fixed w off).WFs from trivial)] at hc
  simp only [Stim.next] at hc
  rw [fixed_fragment_eq_slice, slice_getElem?] at hc
  split at hc
  · exact (Option.some.inj hc).symm.trans (fixedAt_of_le w _ hout)
  · cases hc

example : (drawAll stimGen (.gate 1 2 0 (.leaf 0 0)) [2, 3])[4]? = some .z := by decide

/-- The full envelope: `start` zeros, the first half of the `2·rise`-point window, exact ones, the
second half of the same window. -/
theorem envelope_shape {α : Type} [Sample α] (ramp : Nat → α) (p : EnvP) (h : p.riseN * 2 ≤ p.dur) :
    envelope ramp p 0 (p.start + p.dur)
      = .ok (List.replicate p.start Sample.zero ++ ((List.range p.riseN).map ramp
          ++ (List.replicate (p.dur - 2 * p.riseN) Sample.one
          ++ (List.range p.riseN).map fun i => ramp (p.riseN + i)))) := by
  unfold envelope
  rw [if_neg (by omega), envelopeFrag_full ramp p.start p.dur p.riseN (by omega)]

example : envelopeFrag (Cell.a .ramp 0) 1 5 2 0 6
    = [.z, .a .ramp 0 0, .a .ramp 0 1, .o, .a .ramp 0 2, .a .ramp 0 3] := by decide

/-- A rise time is rejected (ValueError) exactly when it is longer than half the duration. -/
theorem envelope_rejects_iff {α : Type} [Sample α] (ramp : Nat → α) (p : EnvP) (off n : Nat) :
    envelope ramp p off n = .error .valueError ↔ p.dur < 2 * p.riseN := by
  unfold envelope
  constructor
  · intro h
    split at h
    · omega
    · cases h
  · intro h
    rw [if_pos (by omega)]

/-- The factory raises exactly under the same condition. -/
theorem envelope_factory_rejects_iff (id : Nat) (p : EnvP) (off : Nat) (inner : Stim) (hi : inner.error? = none) :
    (Stim.env id p off inner).error? = some .valueError ↔ p.dur < 2 * p.riseN := by
  simp only [Stim.error?, hi]
  constructor
  · intro h
    split at h
    · omega
    · cases h
  · intro h
    rw [if_pos (by omega)]

example : envelope (Cell.a .ramp 0) ⟨0, 5, some 3⟩ 0 5 = .error .valueError := rfl

/-- `rise_time=None` means half the duration (rounded down). -/
theorem rise_none_is_half_duration (start dur : Nat) : (⟨start, dur, none⟩ : EnvP).riseN = dur / 2 := rfl

/-- The cosine-squared window `sin²` stays within `[0, 1]` (over the reals). -/
theorem cos2ramp_in_unit_interval (x : ℝ) : 0 ≤ Real.sin x ^ 2 ∧ Real.sin x ^ 2 ≤ 1 :=
  ⟨sq_nonneg _, Real.sin_sq_le_one x⟩

end Psi.Stim

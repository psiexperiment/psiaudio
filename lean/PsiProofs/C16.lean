import PsiProofs.Helper.C07_Lemmas
import PsiProofs.Helper.C16_Window
/-!
# C16 — spectral and level utilities satisfy their defining identities

The dB helpers of `psiaudio/util.py` over ℝ (namespace `Psi.Db`), then the DFT identities of `util.csd`, `psd`,
`tone_conv`, `csd_to_signal`, `rms` (namespace `Psi.C16`), including the windowed tone law for every cosine-sum
window.  Round-off is not bounded by any theorem here; the `Float` instance of the same definitions is compared
with the implementation on every run.
-/
namespace Psi.Db

theorem db_def (x r : ℝ) : db x r = 20 * Real.logb 10 (x / r) := db_real x r

theorem db_dbi (d r : ℝ) (hr : 0 < r) : db (dbi d r) r = d := by
  rw [db_real, dbi_real, mul_div_assoc, div_self hr.ne', mul_one, log10_exp10]; ring

theorem dbi_db (x r : ℝ) (hx : 0 < x) (hr : 0 < r) : dbi (db x r) r = x := by
  rw [dbi_real, db_real, mul_div_cancel_left₀ _ (by norm_num : (20 : ℝ) ≠ 0),
    exp10_log10 (div_pos hx hr), div_mul_cancel₀ _ hr.ne']

theorem patodb_dbtopa (d : ℝ) : patodb (dbtopa d) = d := db_dbi d pRef pRef_pos

theorem dbtopa_patodb (p : ℝ) (hp : 0 < p) : dbtopa (patodb p) = p := dbi_db p pRef hp pRef_pos

/-- 20 µPa is 0 dB SPL. -/
theorem patodb_ref : patodb (pRef : ℝ) = 0 := by
  rw [patodb, db_real, div_self pRef_pos.ne']; simp

theorem pRef_value : (pRef : ℝ) = 20 / 1000000 := pRef_real

theorem dbi_plus20 (d r : ℝ) : dbi (d + 20) r = 10 * dbi d r := by
  rw [dbi_real, dbi_real, add_div, Real.rpow_add ten_pos, exp10_one]; ring

theorem spectrumToBand_def (L n : ℝ) : spectrumToBand L n = L + 10 * Real.logb 10 n := by
  simp [spectrumToBand]

/-- The band level over `n` bins of equal power `p` is the level of their powers added together. -/
theorem band_level_power (p n : ℝ) (hp : 0 < p) (hn : 0 < n) :
    spectrumToBand (10 * Real.logb 10 p) n = 10 * Real.logb 10 (n * p) := by
  rw [spectrumToBand_def, Real.logb_mul hn.ne' hp.ne']; ring

theorem bandToSpectrum_spectrumToBand (L n : ℝ) : bandToSpectrum (spectrumToBand L n) n = L := by
  simp [bandToSpectrum, spectrumToBand]

theorem spectrumToBand_bandToSpectrum (L n : ℝ) : spectrumToBand (bandToSpectrum L n) n = L := by
  simp [bandToSpectrum, spectrumToBand]

example : patodb (dbtopa (94 : ℝ)) = 94 := patodb_dbtopa 94
example : dbtopa (patodb (2 : ℝ)) = 2 := dbtopa_patodb 2 (by norm_num)
example : spectrumToBand (10 * Real.logb 10 (3 : ℝ)) 100 = 10 * Real.logb 10 (100 * 3) :=
  band_level_power 3 100 (by norm_num) (by norm_num)

end Psi.Db

/-!
`csd n s k` is bin `k` of `util.csd(s, window=None, detrend=None)` for a signal of `n` samples
(`(2/(n√2)) · Σ_j s_j e^{-2πi jk/n}`), `toneSig n k A p` the sinusoid `√2·A·cos(2π jk/n + p)`.
-/
namespace Psi.C16
open Psi.Db

/-- Tone law, no window: a sinusoid of RMS amplitude `A` and phase `p` at analysis frequency `k` reads `A·e^{ip}`
at bin `k` and exactly `0` at every other bin of the one-sided spectrum. -/
theorem csd_tone (n k : ℕ) (A p : ℝ) (hk : 0 < k) (hkn : 2 * k < n) :
    ((csd n (toneSig n k A p) k).re = A * Real.cos p ∧ (csd n (toneSig n k A p) k).im = A * Real.sin p) ∧
    ∀ m, 2 * m ≤ n → m ≠ k → (csd n (toneSig n k A p) m).re = 0 ∧ (csd n (toneSig n k A p) m).im = 0 :=
  ⟨csd_tone_bin n k A p hk hkn, fun m hm hmk => csd_tone_other n k m A p hk hkn hm hmk⟩

/-- At the tone's bin the windowed spectrum equals the unwindowed one. -/
theorem csd_cosine_window_eq_csd (a : ℕ → ℝ) (M n k : ℕ) (A p : ℝ) (ha : a 0 ≠ 0) (hk : M < k)
    (hkn : 2 * (k + M) < n) :
    csdW n (cosWin a (M + 1) n) (toneSig n k A p) k = csd n (toneSig n k A p) k := by
  rw [csdW, csd, csd, dftBin_cosWin_tone a M n k A p ha hk hkn]

/-- Tone law, any cosine-sum window.  `cosWin a (M+1) n` is the periodic window
`Σ_{m ≤ M} a_m cos(m·(-π + 2πj/n)) = Σ_m (-1)^m a_m cos(2π m j/n)` as `scipy.signal.get_window(name, n)`
(`fftbins=True`) builds it; `util.csd` normalises it by its mean.  `M < k < n/2 - M` is half the main lobe away
from DC and Nyquist; the property only asks for the full main-lobe width `2(M+1)`. -/
theorem csd_cosine_window_tone (a : ℕ → ℝ) (M n k : ℕ) (A p : ℝ) (ha : a 0 ≠ 0) (hk : M < k)
    (hkn : 2 * (k + M) < n) :
    (csdW n (cosWin a (M + 1) n) (toneSig n k A p) k).re = A * Real.cos p ∧
    (csdW n (cosWin a (M + 1) n) (toneSig n k A p) k).im = A * Real.sin p := by
  rw [csd_cosine_window_eq_csd a M n k A p ha hk hkn]
  exact csd_tone_bin n k A p (tone_bin_of_window hk hkn).1 (tone_bin_of_window hk hkn).2

/-- Tone law for SciPy's `hann`, `hamming`, `blackman`, `flattop`, `nuttall`, `blackmanharris` (coefficient
tables of `scipy.signal.windows`, `w.terms` = 2, 2, 3, 5, 4, 4; `w.window n` is compared with
`get_window(name, n)` on every windowed case of the harness). -/
theorem csd_window_tone (w : CosWindow) (n k : ℕ) (A p : ℝ) (hk : w.terms - 1 < k)
    (hkn : 2 * (k + (w.terms - 1)) < n) :
    (csdW n (w.window n) (toneSig n k A p) k).re = A * Real.cos p ∧
    (csdW n (w.window n) (toneSig n k A p) k).im = A * Real.sin p := by
  rw [w.window_eq]
  exact csd_cosine_window_tone w.coef (w.terms - 1) n k A p w.coef_zero_ne hk hkn

/-- The property's wording: *every bin farther than the window's main-lobe width from DC and Nyquist*.
The full (null-to-null) main lobe of a cosine-sum window with `w.terms` coefficients is `2·w.terms` bins wide
(hann / hamming 4, blackman 6, flattop 10, nuttall / blackmanharris 8 — the widths the oracle uses). -/
theorem csd_window_tone_mainlobe (w : CosWindow) (n k : ℕ) (A p : ℝ) (hk : 2 * w.terms < k)
    (hkn : 2 * (k + 2 * w.terms) < n) :
    (csdW n (w.window n) (toneSig n k A p) k).re = A * Real.cos p ∧
    (csdW n (w.window n) (toneSig n k A p) k).im = A * Real.sin p :=
  have h : w.terms - 1 ≤ 2 * w.terms := (Nat.sub_le _ 1).trans (Nat.le_mul_of_pos_left _ two_pos)
  csd_window_tone w n k A p (h.trans_lt hk) ((Nat.mul_le_mul_left 2 (Nat.add_le_add_left h k)).trans_lt hkn)

/-- Tone law on the closed form `hannW n j = 1/2 - 1/2 cos(2πj/n)` of the Hann window. -/
theorem csd_hann_tone (n k : ℕ) (A p : ℝ) (hk : 2 < k) (hkn : 2 * (k + 2) < n) :
    (csdW n (hannW n) (toneSig n k A p) k).re = A * Real.cos p ∧
    (csdW n (hannW n) (toneSig n k A p) k).im = A * Real.sin p := by
  rw [show hannW n = CosWindow.hann.window n from funext fun j => (hann_window_eq n j).symm]
  exact csd_window_tone .hann n k A p (Nat.lt_of_succ_lt hk)
    ((Nat.mul_le_mul_left 2 (Nat.add_le_add_left one_le_two k)).trans_lt hkn)

example : (csdW 16 (hannW 16) (toneSig 16 3 (3 : ℝ) (1/2)) 3).re = 3 * Real.cos (1/2)
    ∧ (csdW 16 (hannW 16) (toneSig 16 3 (3 : ℝ) (1/2)) 3).im = 3 * Real.sin (1/2) :=
  csd_hann_tone 16 3 3 (1/2) (by norm_num) (by norm_num)

theorem window_closed_forms (n j : ℕ) :
    (CosWindow.hann.window n : ℕ → ℝ) j = 1 / 2 - 1 / 2 * Real.cos (2 * Real.pi * j / n) ∧
    (CosWindow.hamming.window n : ℕ → ℝ) j = 54 / 100 - 46 / 100 * Real.cos (2 * Real.pi * j / n) ∧
    (CosWindow.blackman.window n : ℕ → ℝ) j
      = 42 / 100 - 50 / 100 * Real.cos (2 * Real.pi * j / n) + 8 / 100 * Real.cos (2 * Real.pi * 2 * j / n) :=
  ⟨hann_window_eq n j, hamming_window_eq n j, blackman_window_eq n j⟩

/-- `psd(…, waveform_averages=avg)` of `avg` segments holding the whole-cycle tone, followed by `e < avg`
arbitrary samples (what `N mod avg` can be), reads `|A|` at bin `k`. -/
theorem psd_tone (n k avg e : ℕ) (A p : ℝ) (he : e < avg) (hk : 0 < k) (hkn : 2 * k < n) (s : ℕ → ℝ)
    (hs : ∀ r j, r < avg → j < n → s (r * n + j) = toneSig n k A p j) : psd (avg * n + e) avg s k = |A| :=
  psd_tone_trim n k avg e A p he hk hkn s hs

/-- `psd_tone` through any cosine-sum window (built by `csd` for the segment length `n`). -/
theorem psd_cosine_window_tone (a : ℕ → ℝ) (M n k avg e : ℕ) (A p : ℝ) (ha : a 0 ≠ 0) (he : e < avg)
    (hk : M < k) (hkn : 2 * (k + M) < n) (s : ℕ → ℝ)
    (hs : ∀ r j, r < avg → j < n → s (r * n + j) = toneSig n k A p j) :
    psdW (avg * n + e) avg (cosWin a (M + 1) n) s k = |A| := by
  rw [psdW_rows n avg e he]
  refine meanTo_eq_of_forall avg (Nat.zero_lt_of_lt he) _ _ fun r hr => ?_
  rw [csdW_congr n _ _ (toneSig n k A p) k (hs r · hr), csd_cosine_window_eq_csd a M n k A p ha hk hkn]
  exact csd_tone_abs n k A p (tone_bin_of_window hk hkn).1 (tone_bin_of_window hk hkn).2

/-- `psd_tone` through SciPy's six cosine-sum windows (`CosWindow`). -/
theorem psd_window_tone (w : CosWindow) (n k avg e : ℕ) (A p : ℝ) (he : e < avg) (hk : w.terms - 1 < k)
    (hkn : 2 * (k + (w.terms - 1)) < n) (s : ℕ → ℝ)
    (hs : ∀ r j, r < avg → j < n → s (r * n + j) = toneSig n k A p j) :
    psdW (avg * n + e) avg (w.window n) s k = |A| := by
  rw [w.window_eq]
  exact psd_cosine_window_tone w.coef (w.terms - 1) n k avg e A p w.coef_zero_ne he hk hkn s hs

/-- `psd` does not depend on the `N mod avg` trailing samples it trims, with or without a window. -/
theorem psd_trim (N avg : ℕ) (w s s' : ℕ → ℝ) (k : ℕ) (h : ∀ i, i < N - N % avg → s i = s' i) :
    psd N avg s k = psd N avg s' k ∧ psdW N avg w s k = psdW N avg w s' k := by
  rw [← trimLen_eq] at h
  exact ⟨psd_congr N avg s s' k h, psdW_congr N avg w s s' k h⟩

/-- `csd_to_signal` inverts `csd` for even lengths `n = 2m`. -/
theorem csdToSignal_csd (m : ℕ) (hm : 0 < m) (s : ℕ → ℝ) (j : ℕ) (hj : j < 2 * m) :
    csdToSignal m (fun k => csd (2 * m) s k) j = s j :=
  csd_roundtrip m hm s j hj

/-- On a whole-cycle tone (`f = k·fs/n`) `tone_conv` returns `√2·A·e^{ip}`, `tone_power_conv` returns `|A|`,
`tone_phase_conv` returns `p`. -/
theorem toneConv_tone (n k : ℕ) (A p fs : ℝ) (hfs : fs ≠ 0) (hk : 0 < k) (hkn : 2 * k < n) :
    ((toneConv n (toneSig n k A p) fs (k * fs / n)).re = Real.sqrt 2 * A * Real.cos p ∧
     (toneConv n (toneSig n k A p) fs (k * fs / n)).im = Real.sqrt 2 * A * Real.sin p) ∧
    tonePower n (toneSig n k A p) fs (k * fs / n) = |A| ∧
    (0 < A → -Real.pi < p ∧ p ≤ Real.pi → tonePhase n (toneSig n k A p) fs (k * fs / n) = p) :=
  ⟨toneConv_whole_cycles n k A p fs hfs hk hkn, tonePower_whole_cycles n k A p fs hfs hk hkn,
   fun hA hp => tonePhase_whole_cycles n k A p fs hfs hk hkn hA hp⟩

/-- `toneConv_tone` through any of SciPy's cosine-sum windows: the same values. -/
theorem toneConv_window_tone (w : CosWindow) (n k : ℕ) (A p fs : ℝ) (hfs : fs ≠ 0) (hk : w.terms - 1 < k)
    (hkn : 2 * (k + (w.terms - 1)) < n) :
    ((toneConvW n (w.window n) (toneSig n k A p) fs (k * fs / n)).re = Real.sqrt 2 * A * Real.cos p ∧
     (toneConvW n (w.window n) (toneSig n k A p) fs (k * fs / n)).im = Real.sqrt 2 * A * Real.sin p) ∧
    tonePowerW n (w.window n) (toneSig n k A p) fs (k * fs / n) = |A| ∧
    (0 < A → -Real.pi < p ∧ p ≤ Real.pi →
      tonePhaseW n (w.window n) (toneSig n k A p) fs (k * fs / n) = p) := by
  have e := toneConvW_cosWin_tone_eq w.coef (w.terms - 1) n k A p fs hfs w.coef_zero_ne hk hkn
  rw [← w.window_eq] at e
  have h := toneConv_tone n k A p fs hfs (tone_bin_of_window hk hkn).1 (tone_bin_of_window hk hkn).2
  refine ⟨by rw [e]; exact h.1, ?_, ?_⟩
  · rw [tonePowerW, e]; exact h.2.1
  · rw [tonePhaseW, e]; exact h.2.2

/-- Parseval for the one-sided spectrum: the DC bin and (even `n`) the Nyquist bin are counted a second time at
half weight. -/
theorem parseval (n : ℕ) (hn : 0 < n) (s : ℕ → ℝ) :
    sumTo (n / 2 + 1) (fun k => (csd n s k).normSq)
      = meanTo n (fun j => s j * s j) + (1 / 2) * (csd n s 0).normSq
        + (if n % 2 = 0 then (1 / 2) * (csd n s (n / 2)).normSq else 0) :=
  parseval_onesided n hn s

theorem rms_tone (n k : ℕ) (A p : ℝ) (hk : 0 < k) (hkn : 2 * k < n) : rms n (toneSig n k A p) = |A| :=
  tone_rms n k A p hk hkn

example := csd_tone 8 1 3 (1/2) (by norm_num) (by norm_num)
example := csd_hann_tone 16 3 3 (1/2) (by norm_num) (by norm_num)
example := csd_cosine_window_tone (fun m => if m = 0 then 1 else 2) 3 32 5 3 (1/2) (by norm_num) (by norm_num)
  (by norm_num)
example := csd_window_tone .flattop 32 5 3 (1/2) (by decide) (by decide)
example := csd_window_tone .hamming 16 2 3 (1/2) (by decide) (by decide)
example := csd_window_tone .nuttall 32 4 3 (1/2) (by decide) (by decide)
example := csd_window_tone_mainlobe .blackman 64 7 3 (1/2) (by decide) (by decide)
example := psd_tone 8 1 4 3 3 (1/2) (by norm_num) (by norm_num) (by norm_num)
  (fun i => if i < 32 then toneSig 8 1 (3 : ℝ) (1/2) (i % 8) else 7)
  (fun r j hr hj => by
    have h1 : r * 8 + j < 32 := by omega
    simp only [h1, if_true, Nat.mul_add_mod_of_lt hj])
example := psd_window_tone .hann 16 3 2 1 3 (1/2) (by norm_num) (by decide) (by decide)
  (fun i => if i < 32 then toneSig 16 3 (3 : ℝ) (1/2) (i % 16) else 7)
  (fun r j hr hj => by
    have h1 : r * 16 + j < 32 := by omega
    simp only [h1, if_true, Nat.mul_add_mod_of_lt hj])
example (w s : ℕ → ℝ) := psd_trim 35 4 w s (fun i => if i < 32 then s i else 0) 1
  (fun i hi => by simp only [show 35 - 35 % 4 = 32 by norm_num] at hi; simp [hi])
example := toneConv_tone 8 1 3 (1/2) 100000 (by norm_num) (by norm_num) (by norm_num)
example := toneConv_window_tone .flattop 32 5 3 (1/2) 100000 (by norm_num) (by decide) (by decide)
example (s : ℕ → ℝ) := parseval 9 (by norm_num) s
example (s : ℕ → ℝ) := csdToSignal_csd 4 (by norm_num) s 7 (by norm_num)

end Psi.C16


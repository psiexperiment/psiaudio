import PsiProofs.Helper.C12_Stages1
import PsiProofs.Helper.C12_Stages2
import PsiProofs.Helper.C12_Stages3
import PsiProofs.Helper.C12_Rate
import PsiProofs.Helper.C12_Restart
import PsiProofs.Helper.C12_Annot
import PsiProofs.Helper.C12_Concat
import PsiProofs.Helper.C12_Channels
/-!
# C12 — streaming stages are chunk-invariant and keep a contiguous time base

For every stage of `psiaudio/pipeline.py`, every list of chunks `cs` (any number, any sizes, empty ones included)
and every start sample `s`, the transducer run over `stream ann s cs` never raises and emits `bs` with
`Emits bs (spec cs.flatten) u t ann'`: the concatenated output is the stage's whole-signal definition of the
concatenated input (chunk invariance), the blocks are contiguous from `t` in units of `u`, and every block carries
`ann'`.  `iirfilter` needs a non-empty first chunk; `event_rate` consumes `Events` objects and has its own statement.
The per-stage theorems stand next to the step lemmas in `Helper/C12_Stages1..3`.
-/
namespace Psi.Stages
variable {α β ρ χ μ S τ : Type}

theorem Emits.next_s0 {bs : List (PD β ρ χ μ)} {x : List β} {u t : Int} {a : Ann ρ χ μ}
    (h : Emits bs x u t a) (l r : List (PD β ρ χ μ)) (b1 b2 : PD β ρ χ μ)
    (hbs : bs = l ++ b1 :: b2 :: r) : b2.s0 = b1.s0 + u * b1.len := by
  have key : ∀ (l : List (PD β ρ χ μ)) (t : Int), Contig u t (l ++ b1 :: b2 :: r) →
      b2.s0 = b1.s0 + u * b1.len := by
    intro l
    induction l with
    | nil => intro t hc; obtain ⟨h1, h2, _⟩ := hc; rw [h2, h1]
    | cons c l ih => intro t hc; exact ih _ hc.2
  exact key l t (hbs ▸ h.contig)

theorem Emits.first_s0 {bs : List (PD β ρ χ μ)} {x : List β} {u t : Int} {a : Ann ρ χ μ}
    (h : Emits bs x u t a) (b : PD β ρ χ μ) (r : List (PD β ρ χ μ)) (hbs : bs = b :: r) : b.s0 = t := by
  subst hbs; exact h.contig.1

theorem Emits.rate_labels_metadata {bs : List (PD β ρ χ μ)} {x : List β} {u t : Int} {a : Ann ρ χ μ}
    (h : Emits bs x u t a) : ∀ b ∈ bs, b.ann.fs = a.fs ∧ b.ann.channel = a.channel ∧ b.ann.metadata = a.metadata := by
  intro b hb; rw [h.ann b hb]; exact ⟨rfl, rfl, rfl⟩

theorem Emits.same_data {bs bs' : List (PD β ρ χ μ)} {x : List β} {u u' t t' : Int} {a a' : Ann ρ χ μ}
    (h : Emits bs x u t a) (h' : Emits bs' x u' t' a') : outData bs = outData bs' := by
  rw [h.data, h'.data]

/-- the emitted blocks are accepted by the stage model's `cat` (full `concat`: `emitted_blocks_concatenate_full_concat`) -/
theorem emitted_blocks_concatenate {bs : List (PD β ρ χ μ)} {x : List β} {t : Int} {a : Ann ρ χ μ}
    (h : Emits bs x 1 t a) (hne : bs ≠ []) : catAll bs = .ok { data := x, s0 := t, ann := a } :=
  h.catAll_ok hne

theorem blocksOf_characterisation (n : Nat) (hn : 0 < n) (x : List α) :
    (blocksOf n x).flatten = x.take (x.length / n * n) ∧ (∀ b ∈ blocksOf n x, b.length = n)
      ∧ (blocksOf n x).length = x.length / n :=
  ⟨blocksOf_flatten n hn x, blocksOf_length_eq n hn x, blocksOf_count n hn x⟩

/-- an empty first chunk cannot initialise the filter state (`zi * y[..., :1]`): `ValueError` -/
theorem iirfilter_empty_first_chunk (lf : S → List α → List β × S) (init : α → S) (ann : Ann ρ χ μ) (s : Int)
    (cs : List (List α)) :
    outputs (runStage (iirStep lf init) none (stream ann s ([] :: cs))) = .error .valueError := by
  rw [stream_cons]; rfl

/-- a zero-length chunk inserted anywhere (after a non-empty first chunk for `iirfilter`) changes nothing,
whatever final state `lfilter` reports for the empty input -/
theorem lfilter_stages_empty_chunk_invariant (m : Mealy α β S) (lf : S → List α → List β × S)
    (hlf : LfilterIs lf m) (init : α → S) (zi : S) (divFs : ρ → Nat → ρ) (q : Nat) (hq : 0 < q)
    (ann : Ann ρ χ μ) (s : Int) (x0 : α) (c0 : List α) (pre post : List (List α)) :
    (∃ bs bs' x, outputs (runStage (iirStep lf init) none (stream ann s ((x0 :: c0) :: pre ++ [] :: post))) = .ok bs
      ∧ outputs (runStage (iirStep lf init) none (stream ann s ((x0 :: c0) :: pre ++ post))) = .ok bs'
      ∧ Emits bs x 1 s ann ∧ Emits bs' x 1 s ann)
    ∧ (∃ bs bs' x, outputs (runStage (decimateStep lf zi divFs q) none (stream ann s (pre ++ [] :: post))) = .ok bs
      ∧ outputs (runStage (decimateStep lf zi divFs q) none (stream ann s (pre ++ post))) = .ok bs'
      ∧ Emits bs x 1 s { ann with fs := divFs ann.fs q }
      ∧ Emits bs' x 1 s { ann with fs := divFs ann.fs q }) := by
  constructor
  · obtain ⟨bs, h1, h2⟩ := iirfilter_chunk_invariant m lf hlf init ann s x0 c0 (pre ++ [] :: post)
    obtain ⟨bs', h1', h2'⟩ := iirfilter_chunk_invariant m lf hlf init ann s x0 c0 (pre ++ post)
    refine ⟨bs, bs', _, h1, h1', h2, ?_⟩
    simpa using h2'
  · obtain ⟨bs, h1, h2⟩ := decimate_chunk_invariant m lf hlf zi divFs q hq ann s (pre ++ [] :: post)
    obtain ⟨bs', h1', h2'⟩ := decimate_chunk_invariant m lf hlf zi divFs q hq ann s (pre ++ post)
    refine ⟨bs, bs', _, h1, h1', h2, ?_⟩
    simpa using h2'

/-- why the guard is needed (the recorded finding `C12-lfilter-empty-chunk`, repaired by
notes/C12_fix_5.diff): a stage that adopts the final state `lfilter` reports for an empty chunk is not
chunk-invariant for a kernel that is correct on every non-empty input.  Kernel: running sum, state 99 after
an empty input. -/
theorem lfilter_unguarded_not_chunk_invariant :
    ∃ (m : Mealy Nat Nat Nat) (lf : Nat → List Nat → List Nat × Nat), LfilterIs lf m ∧
      let unguarded : Option Nat → PD Nat Unit Unit Unit → Except Err (List (PD Nat Unit Unit Unit) × Option Nat) :=
        fun st y => match iirInit (fun _ => 0) st y.data with
          | .error e => .error e
          | .ok z => .ok ([y.withData (lf z y.data).1], some (lf z y.data).2)
      (outputs (runStage unguarded none (stream ⟨(), (), ()⟩ 0 [[1], [], [2]]))).toOption.map outData
        ≠ (outputs (runStage unguarded none (stream ⟨(), (), ()⟩ 0 [[1], [2]]))).toOption.map outData
      ∧ (outputs (runStage (iirStep lf (fun _ => 0)) none (stream ⟨(), (), ()⟩ 0 [[1], [], [2]]))).toOption.map outData
        = (outputs (runStage (iirStep lf (fun _ => 0)) none (stream ⟨(), (), ()⟩ 0 [[1], [2]]))).toOption.map outData := by
  refine ⟨⟨fun s a => (s + a, s + a)⟩, fun z x => if x = [] then ([], 99) else
    (⟨fun s a => (s + a, s + a)⟩ : Mealy Nat Nat Nat).run z x, ⟨?_, ?_⟩, ?_⟩
  · intro z x hx; simp [hx]
  · intro z; simp
  · decide

/-- the pointwise hypothesis is needed.  Witness: add the chunk length to every sample. -/
theorem transform_not_chunk_invariant_without_pointwise :
    ∃ (f : PD Nat Unit Unit Unit → PD Nat Unit Unit Unit) (cs cs' : List (List Nat)),
      cs.flatten = cs'.flatten ∧
      (outputs (runStage (transformStep f) () (stream ⟨(), (), ()⟩ 0 cs))).toOption.map outData
        ≠ (outputs (runStage (transformStep f) () (stream ⟨(), (), ()⟩ 0 cs'))).toOption.map outData := by
  refine ⟨fun y => y.withData (y.data.map (· + y.data.length)), [[1, 2]], [[1], [2]], rfl, ?_⟩
  decide

/-- `event_rate(block_size, block_step)` on a well-formed event stream cut into at least two adjacent `Events` objects
(`WFEvents`: adjacent spans, possibly empty, one rate, every event inside the span of its object, any listing order):
never raises, and the concatenated count blocks are `rateSpec` of the whole stream (read by `rateSpec_length`,
`rateSpec_window_completed`, `rateSpec_getElem`).  The emitted rate is `count / block_size * fs`, a fixed function of
the count.  `s0 = start + block_size/2`; the model's field holds twice that, hence `u = 2`. -/
theorem event_rate_chunk_invariant [DecidableEq ρ] (divFs : ρ → Nat → ρ) (chDef : χ) (mdEmpty : μ)
    (size step : Nat) (hs : 0 < step) (fs : ρ) (e0 : Ev ρ) (es : List (Ev ρ)) (hne : es ≠ [])
    (hwf : WFEvents fs e0.start (e0 :: es)) :
    ∃ bs, outputs (runStage (eventRateStep divFs chDef mdEmpty size step) none (e0 :: es)) = .ok bs
      ∧ Emits bs (rateSpec size step e0.start (endOf e0.start (e0 :: es)) (allEvents (e0 :: es)))
          2 (2 * e0.start + size : Nat) ⟨divFs fs step, chDef, mdEmpty⟩ := by
  obtain ⟨_, _, hfs, hev, hwf'⟩ := hwf
  have h0 : step ≠ 0 := Nat.ne_of_gt hs
  obtain ⟨bs, hrun, hem⟩ := eventRate_run divFs chDef mdEmpty size step hs fs (divFs fs step) es e0.events
    e0.start e0.stop (2 * e0.start + size) hwf' (fun x hx => (hev x hx).2) (fun h => absurd h hne)
  have hstep : eventRateStep divFs chDef mdEmpty size step none e0
      = .ok ([], some ⟨⟨e0.events, e0.start, e0.stop, fs⟩, 2 * e0.start + size, divFs fs step⟩) := by
    simp only [eventRateStep, h0, if_false, ← hfs]
  exact ⟨bs, by rw [outputs_cons hstep, hrun]; rfl, hem⟩

theorem rateSpec_length (size step a b : Nat) (all : List Nat) :
    (rateSpec size step a b all).length = nWindows size step a b := by
  simp [rateSpec]

/-- the stage's loop condition `events.range_samples > block_size`, with the whole span `[a, b)` known -/
theorem rateSpec_window_completed (size step a b : Nat) (hs : 0 < step) (j : Nat) :
    j < nWindows size step a b ↔ a + j * step + size < b :=
  nWindows_spec hs j

theorem rateSpec_getElem (size step a b : Nat) (all : List Nat) (j : Nat)
    (hj : j < (rateSpec size step a b all).length) :
    (rateSpec size step a b all)[j]
      = all.countP (fun x => decide (a + j * step ≤ x) && decide (x < a + j * step + size)) := by
  simp only [rateSpec, List.getElem_map, List.getElem_range]
  rfl

theorem rateSpec_perm (size step a b : Nat) {all all' : List Nat} (h : all.Perm all') :
    rateSpec size step a b all = rateSpec size step a b all' := by
  unfold rateSpec
  apply List.map_congr_left
  intro j _
  exact h.countP_eq _

/-- chunk invariance of `event_rate`: two chunkings (each into ≥ 2 objects) of one event stream — same span, same
multiset of events — give the same output -/
theorem event_rate_same_for_all_chunkings [DecidableEq ρ] (divFs : ρ → Nat → ρ) (chDef : χ) (mdEmpty : μ)
    (size step : Nat) (hs : 0 < step) (fs : ρ) (e0 e0' : Ev ρ) (es es' : List (Ev ρ))
    (hne : es ≠ []) (hne' : es' ≠ [])
    (hwf : WFEvents fs e0.start (e0 :: es)) (hwf' : WFEvents fs e0'.start (e0' :: es'))
    (hstart : e0.start = e0'.start) (hend : endOf e0.start (e0 :: es) = endOf e0'.start (e0' :: es'))
    (hperm : (allEvents (e0 :: es)).Perm (allEvents (e0' :: es'))) :
    ∃ bs bs' x, outputs (runStage (eventRateStep divFs chDef mdEmpty size step) none (e0 :: es)) = .ok bs
      ∧ outputs (runStage (eventRateStep divFs chDef mdEmpty size step) none (e0' :: es')) = .ok bs'
      ∧ Emits bs x 2 (2 * e0.start + size : Nat) ⟨divFs fs step, chDef, mdEmpty⟩
      ∧ Emits bs' x 2 (2 * e0.start + size : Nat) ⟨divFs fs step, chDef, mdEmpty⟩ := by
  obtain ⟨bs, h1, h2⟩ := event_rate_chunk_invariant divFs chDef mdEmpty size step hs fs e0 es hne hwf
  obtain ⟨bs', h1', h2'⟩ := event_rate_chunk_invariant divFs chDef mdEmpty size step hs fs e0' es' hne' hwf'
  refine ⟨bs, bs', _, h1, h1', h2, ?_⟩
  have hend2 : endOf e0.start (e0' :: es') = endOf e0.start (e0 :: es) := by
    -- `endOf` of a non-empty list does not look at its start argument
    simpa [endOf] using hend.symm
  rw [← hstart, hend2, ← rateSpec_perm size step _ _ hperm] at h2'
  exact h2'

/-- without `WFEvents` (events may lie outside the spans): whenever `event_rate` does not raise, time base and
annotations are still right -/
theorem event_rate_blocks_contiguous [DecidableEq ρ] (divFs : ρ → Nat → ρ) (chDef : χ) (mdEmpty : μ)
    (size step : Nat) (e0 : Ev ρ) (es : List (Ev ρ)) (bs : List (PD Nat ρ χ μ))
    (h : outputs (runStage (eventRateStep divFs chDef mdEmpty size step) none (e0 :: es)) = .ok bs) :
    Contig 2 (2 * e0.start + size : Nat) bs ∧ ∀ b ∈ bs, b.ann = ⟨divFs e0.fs step, chDef, mdEmpty⟩ := by
  obtain ⟨o, s', bs', hstep, hrest, rfl⟩ := outputs_cons_ok h
  unfold eventRateStep at hstep
  by_cases h0 : step = 0
  · rw [if_pos h0] at hstep; cases hstep
  · rw [if_neg h0] at hstep
    cases hstep
    have := eventRate_contig divFs chDef mdEmpty size step es _ _ hrest
    exact ⟨this.contig, this.ann⟩

/-- `event_rate`: the first `Events` object is only buffered (a stream delivered as a single object emits
nothing); a gap between two objects, or a different sampling rate, raises `ValueError` -/
theorem event_rate_first_buffered_and_gap_raises [DecidableEq ρ] (divFs : ρ → Nat → ρ) (chDef : χ) (mdEmpty : μ)
    (size step : Nat) (hs : 0 < step) (e0 e1 : Ev ρ) :
    outputs (runStage (eventRateStep divFs chDef mdEmpty size step) none [e0]) = .ok []
    ∧ (e1.start ≠ e0.stop ∨ e1.fs ≠ e0.fs →
        outputs (runStage (eventRateStep divFs chDef mdEmpty size step) none [e0, e1]) = .error .valueError) := by
  have h0 : step ≠ 0 := Nat.ne_of_gt hs
  refine ⟨by simp [runStage, eventRateStep, h0, outputs], ?_⟩
  intro hne
  by_cases h1 : e1.start = e0.stop
  · have h2 : e1.fs ≠ e0.fs := by
      rcases hne with h | h
      · exact absurd h1 h
      · exact h
    simp [runStage, eventRateStep, h0, h1, h2, outputs]
  · simp [runStage, eventRateStep, h0, h1, outputs]

/-- `blocked(b)` over streams separated by the restart signal `Ellipsis` (`restartInput`; every stream has its own
annotations, `s0` and chunking).  The code's restart branch only empties the buffer and leaves the counter `n` as it
is; nevertheless every signal is passed on once and in place, and on each stream the stage emits exactly the blocks a
freshly created `blocked(b)` emits on it. -/
theorem blocked_restart_like_fresh (b : Nat) (hb : 0 < b) (sg0 : Seg α ρ χ μ) (rest : List (Seg α ρ χ μ)) :
    ∃ bs0 bss,
      outputs (runStage (blockedStepE b) {} (restartInput sg0 rest)) = .ok (restartOutput bs0 bss)
      ∧ AllPairs (fun sg bs =>
          outputs (runStage (blockedStep b) {} sg.stream) = .ok bs
          ∧ Emits bs (sg.chunks.flatten.take (sg.chunks.flatten.length / b * b)) 1 sg.s0 sg.ann
          ∧ ∀ blk ∈ bs, blk.len = b) (sg0 :: rest) (bs0 :: bss) :=
  restart_run (blockedStep b) (onR := fun st => { st with data := [] }) (init := {}) (Inv := fun st => st.n < b) _
    (hpres := blockedStep_inv b hb) (hR := fun _ h => h) (hfresh := blocked_restart_fresh b hb)
    (hok := fun sg => blocked_chunk_invariant b hb sg.ann sg.s0 sg.chunks) (hinit := hb) sg0 rest

/-- `discard(d)` over streams separated by the restart signal: on each stream, what a freshly created `discard(d)`
emits on it -/
theorem discard_restart_like_fresh (d : Nat) (sg0 : Seg α ρ χ μ) (rest : List (Seg α ρ χ μ)) :
    ∃ bs0 bss,
      outputs (runStage (discardStepE d) d (restartInput sg0 rest)) = .ok (restartOutput bs0 bss)
      ∧ AllPairs (fun sg bs =>
          outputs (runStage discardStep d sg.stream) = .ok bs
          ∧ Emits bs (sg.chunks.flatten.drop d) 1 (sg.s0 + d) sg.ann) (sg0 :: rest) (bs0 :: bss) :=
  restart_run discardStep (onR := fun _ => d) (init := d) (Inv := fun _ => True) _
    (hpres := fun _ _ _ _ _ _ => trivial) (hR := fun _ _ => trivial) (hfresh := fun _ _ _ => rfl)
    (hok := fun sg => discard_chunk_invariant d sg.ann sg.s0 sg.chunks) (hinit := trivial) sg0 rest

/-- whole-input form: the samples out of `blocked` / `discard`, with a mark at every forwarded signal, are a function
of the concatenated streams only (`restartSpec`) -/
theorem restart_samples_chunk_invariant (b : Nat) (hb : 0 < b) (d : Nat) (sg0 : Seg α ρ χ μ)
    (rest : List (Seg α ρ χ μ)) :
    (∃ out, outputs (runStage (blockedStepE b) {} (restartInput sg0 rest)) = .ok out
      ∧ sigSamples out = restartSpec (fun x => x.take (x.length / b * b)) sg0.chunks.flatten
          (rest.map (·.chunks.flatten)))
    ∧ (∃ out, outputs (runStage (discardStepE d) d (restartInput sg0 rest)) = .ok out
      ∧ sigSamples out = restartSpec (fun x => x.drop d) sg0.chunks.flatten (rest.map (·.chunks.flatten))) := by
  constructor
  · obtain ⟨bs0, bss, hrun, ⟨h0, hF⟩⟩ := blocked_restart_like_fresh b hb sg0 rest
    refine ⟨_, hrun, ?_⟩
    unfold restartOutput restartSpec
    rw [sigSamples_append, sigSamples_data, h0.2.1.data,
      sigSamples_restartOutput (fun x => x.take (x.length / b * b)) rest bss
        (AllPairs.imp (fun sg bs h => h.2.1.data) hF)]
  · obtain ⟨bs0, bss, hrun, ⟨h0, hF⟩⟩ := discard_restart_like_fresh d sg0 rest
    refine ⟨_, hrun, ?_⟩
    unfold restartOutput restartSpec
    rw [sigSamples_append, sigSamples_data, h0.2.data,
      sigSamples_restartOutput (fun x => x.drop d) rest bss (AllPairs.imp (fun sg bs h => h.2.data) hF)]

theorem AllPairs.spelled_out {A B : Type} {R : A → B → Prop} {l : List A} {l' : List B} (h : AllPairs R l l') :
    l.length = l'.length ∧ ∀ (i : Nat) (h1 : i < l.length) (h2 : i < l'.length), R l[i] l'[i] := by
  induction l generalizing l' with
  | nil => cases l' with
    | nil => exact ⟨rfl, fun i h1 => absurd h1 (Nat.not_lt_zero _)⟩
    | cons _ _ => exact h.elim
  | cons a l ih => cases l' with
    | nil => exact h.elim
    | cons b l' =>
      obtain ⟨hlen, hget⟩ := ih h.2
      refine ⟨by rw [List.length_cons, List.length_cons, hlen], fun i h1 h2 => ?_⟩
      cases i with
      | zero => exact h.1
      | succ i => exact hget i (Nat.lt_of_succ_lt_succ h1) (Nat.lt_of_succ_lt_succ h2)

/-- `rms(n)` with the true first-sample index `s0 / n` of every block (`result.s0 /= n`; the model's field is the
numerator).  For a stream starting at a multiple `n·k` of the block length every division is exact and the blocks are
contiguous from `k` counted in output samples. -/
theorem rms_annotations_output_samples (blockFn : List α → β) (divFs : ρ → Nat → ρ) (n : Nat) (hn : 0 < n)
    (ann : Ann ρ χ μ) (k : Int) (cs : List (List α)) :
    ∃ bs, outputs (runStage (rmsStep blockFn divFs n) {} (stream ann ((n : Int) * k) cs)) = .ok bs
      ∧ (∀ b ∈ bs, b.s0 = (n : Int) * (b.s0 / (n : Int)))
      ∧ Emits (bs.map (PD.divS0 n)) ((blocksOf n cs.flatten).map blockFn) 1 k { ann with fs := divFs ann.fs n } := by
  obtain ⟨bs, h1, h2⟩ := rms_chunk_invariant blockFn divFs n hn ann ((n : Int) * k) cs
  obtain ⟨h3, h4⟩ := h2.divS0 hn
  exact ⟨bs, h1, h4, h3⟩

/-- `rms(n)` for any first sample `s`: the true indices `s0 / n ∈ ℚ` are contiguous from `s / n` (exact rational
arithmetic; the code computes them in floating point) -/
theorem rms_true_s0_contiguous (blockFn : List α → β) (divFs : ρ → Nat → ρ) (n : Nat) (hn : 0 < n)
    (ann : Ann ρ χ μ) (s : Int) (cs : List (List α)) :
    ∃ bs, outputs (runStage (rmsStep blockFn divFs n) {} (stream ann s cs)) = .ok bs
      ∧ RContig ((s : Rat) / n) (bs.map fun b => ((b.s0 : Rat) / n, b.len)) := by
  obtain ⟨bs, h1, h2⟩ := rms_chunk_invariant blockFn divFs n hn ann s cs
  exact ⟨bs, h1, Contig.rat n hn bs s h2.contig⟩

/-- `auto_th` with the metadata dict as a key/value map (`metadata['auto_th'] = th` is `setKey key th`): `key` maps
to the threshold of the first `bl` samples of the whole stream, every other key is untouched.  The first block carries
everything accumulated for the baseline. -/
theorem auto_th_annotations {κ ν : Type} [DecidableEq κ] (key : κ) (thr : List α → ν) (cmp : ν → α → β) (bl : Nat)
    (ann : Ann ρ χ (κ → Option ν)) (s : Int) (cs : List (List α)) :
    ∃ bs, outputs (runStage (autoThStep thr cmp (setKey key) bl) .first (stream ann s cs)) = .ok bs
      ∧ outData bs = autoSpec thr cmp bl cs.flatten ∧ Contig 1 s bs
      ∧ ∀ b ∈ bs, b.ann.fs = ann.fs ∧ b.ann.channel = ann.channel
          ∧ b.ann.metadata key = some (thr (cs.flatten.take bl))
          ∧ ∀ k, k ≠ key → b.ann.metadata k = ann.metadata k := by
  obtain ⟨bs, h1, h2⟩ := auto_th_chunk_invariant thr cmp (setKey key) bl ann s cs
  refine ⟨bs, h1, h2.data, h2.contig, ?_⟩
  intro b hb
  rw [h2.ann b hb]
  exact ⟨rfl, rfl, setKey_same _ _ _, fun k hk => setKey_other _ _ _ k hk⟩

/-- `emitted_blocks_concatenate` against the full `concat` of C11 (`Psi.PData.concat`, with all its checks): whatever a
stage emits — 1-D blocks, or 2-D blocks of `c` channels with one label per channel — is accepted and gives the whole
output as one array (`[N]` resp. row-major `[c, N]`). -/
theorem emitted_blocks_concatenate_full_concat :
    (∀ (bs : List (PD Nat Rat PData.Label PData.Md)) (x : List Nat) (t : Int) (a : Ann Rat PData.Label PData.Md),
      Emits bs x 1 t a → bs ≠ [] →
      PData.concat (bs.map toPData1) .time = .ok (toPData1 { data := x, s0 := t, ann := a }))
    ∧ (∀ (c : Nat) (bs : List (PD (Fin c → Nat) Rat (List PData.Label) PData.Md)) (x : List (Fin c → Nat)) (t : Int)
        (a : Ann Rat (List PData.Label) PData.Md),
      Emits bs x 1 t a → a.channel.length = c → bs ≠ [] →
      PData.concat (bs.map toPData2) .time = .ok (toPData2 { data := x, s0 := t, ann := a })) :=
  ⟨fun _ _ _ _ h hne => h.concat_ok toPData1 [] id .one (fun _ => rfl) joinData_1d (fun b _ => toPData1_wf b) hne,
   fun c _ _ _ _ h hl hne => h.concat_ok toPData2 [c] rowMajor .many (fun _ => rfl) joinData_2d
     (fun b hb => toPData2_wf b (by rw [hb]; exact hl)) hne⟩

/-- the two-piece `cat` used inside the stage model agrees with the full `concat` on the pieces of one stream.  `cat`
does not compare rate, label or metadata; `concat` refuses pieces that differ there (never the case inside a stream). -/
theorem stage_cat_is_full_concat (p q : PD Nat Rat PData.Label PData.Md) :
    (q.ann = p.ann → q.s0 = p.s0 + p.len →
      ∃ r, cat p q = .ok r ∧ PData.concat [toPData1 p, toPData1 q] .time = .ok (toPData1 r))
    ∧ (q.ann = p.ann → q.s0 ≠ p.s0 + p.len →
      cat p q = .error .valueError ∧ PData.concat [toPData1 p, toPData1 q] .time = .error .valueError)
    ∧ (q.ann ≠ p.ann → PData.concat [toPData1 p, toPData1 q] .time = .error .valueError) :=
  ⟨fun h => (cat_is_concat_1d p q h).1, fun h => (cat_is_concat_1d p q h).2,
   concat_rejects_other_annotations_1d p q⟩

/-- `rms` is not covered by `emitted_blocks_concatenate` (whose `s0` unit is 1): its blocks on a stream starting at
`n·k`, with their true `s0`, are accepted by the full `concat` -/
theorem rms_blocks_concatenate_full_concat (blockFn : List α → Nat) (n : Nat) (hn : 0 < n)
    (ann : Ann Rat PData.Label PData.Md) (k : Int) (cs : List (List α)) (hlen : n ≤ cs.flatten.length) :
    ∃ bs, outputs (runStage (rmsStep blockFn (fun (fs : Rat) (q : Nat) => fs / q) n) {} (stream ann ((n : Int) * k) cs)) = .ok bs
      ∧ PData.concat ((bs.map (PD.divS0 n)).map toPData1) .time
        = .ok (toPData1 { data := (blocksOf n cs.flatten).map blockFn, s0 := k, ann := { ann with fs := ann.fs / n } }) := by
  obtain ⟨bs, h1, _, h3⟩ := rms_annotations_output_samples blockFn (fun (fs : Rat) (q : Nat) => fs / q) n hn ann k cs
  refine ⟨bs, h1, emitted_blocks_concatenate_full_concat.1 _ _ _ _ h3 ?_⟩
  intro hnil
  have hd := h3.data
  rw [hnil] at hd
  have hc := blocksOf_count n hn cs.flatten
  have : (List.map blockFn (blocksOf n cs.flatten)).length = 0 := by rw [← hd]; rfl
  rw [List.length_map, hc] at this
  have := Nat.div_pos hlen hn
  omega

/-! Multi-channel (2-D) streams: a time column is a `Fin c → α`.  The theorems above hold for any column type; what
is specific to 2-D is that channel `r` of the output is the 1-D whole-signal definition applied to channel `r` of the
input. -/

/-- `decimate(q)` on `c` channels.  `lfilter(axis=-1)` filters the rows independently (`m.channels c`, one state per
row) and the stage starts every channel in the same state `zi` (`zf[np.newaxis]`). -/
theorem decimate_multichannel (m : Mealy α β S) (c : Nat)
    (lf : (Fin c → S) → List (Fin c → α) → List (Fin c → β) × (Fin c → S)) (hlf : LfilterIs lf (m.channels c))
    (zi : S) (divFs : ρ → Nat → ρ) (q : Nat) (hq : 0 < q) (ann : Ann ρ χ μ) (s : Int)
    (cs : List (List (Fin c → α))) :
    ∃ bs, outputs (runStage (decimateStep lf (fun _ => zi) divFs q) none (stream ann s cs)) = .ok bs
      ∧ Contig 1 s bs ∧ (∀ b ∈ bs, b.ann = { ann with fs := divFs ann.fs q })
      ∧ ∀ r : Fin c, (outData bs).map (· r)
          = stride q ((m.run zi (cs.flatten.map (· r))).1.take ((cs.flatten.map (· r)).length / q * q)) := by
  obtain ⟨bs, h1, h2⟩ := decimate_chunk_invariant (m.channels c) lf hlf (fun _ => zi) divFs q hq ann s cs
  refine ⟨bs, h1, h2.contig, h2.ann, ?_⟩
  intro r
  rw [h2.data, ← stride_map, List.map_take, (Mealy.channels_run m c r cs.flatten (fun _ => zi)).1, List.length_map]

/-- `iirfilter` on `c` channels: every channel starts in its own state `init (first sample of that channel)`
(`zi * y[..., :1]`) -/
theorem iirfilter_multichannel (m : Mealy α β S) (c : Nat)
    (lf : (Fin c → S) → List (Fin c → α) → List (Fin c → β) × (Fin c → S)) (hlf : LfilterIs lf (m.channels c))
    (init : α → S) (ann : Ann ρ χ μ) (s : Int) (x0 : Fin c → α) (c0 : List (Fin c → α))
    (cs : List (List (Fin c → α))) :
    ∃ bs, outputs (runStage (iirStep lf (fun col r => init (col r))) none (stream ann s ((x0 :: c0) :: cs))) = .ok bs
      ∧ Contig 1 s bs ∧ (∀ b ∈ bs, b.ann = ann)
      ∧ ∀ r : Fin c, (outData bs).map (· r)
          = (m.run (init (x0 r)) (((x0 :: c0) :: cs).flatten.map (· r))).1 := by
  obtain ⟨bs, h1, h2⟩ := iirfilter_chunk_invariant (m.channels c) lf hlf (fun col r => init (col r)) ann s x0 c0 cs
  refine ⟨bs, h1, h2.contig, h2.ann, ?_⟩
  intro r
  rw [h2.data, (Mealy.channels_run m c r _ _).1]

/-- `blocked`, `downsample` (2-D flag set), `discard` on `c` channels -/
theorem selection_stages_multichannel (c : Nat) (divFs : ρ → Nat → ρ) (p : Nat) (hp : 0 < p) (ann : Ann ρ χ μ) (s : Int)
    (cs : List (List (Fin c → α))) :
    (∃ bs, outputs (runStage (blockedStep p) {} (stream ann s cs)) = .ok bs ∧ Contig 1 s bs ∧ (∀ b ∈ bs, b.ann = ann)
      ∧ ∀ r : Fin c, (outData bs).map (· r)
          = (cs.flatten.map (· r)).take ((cs.flatten.map (· r)).length / p * p))
    ∧ (∃ bs, outputs (runStage (downsampleStep divFs true p) {} (stream ann s cs)) = .ok bs ∧ Contig 1 s bs
      ∧ (∀ b ∈ bs, b.ann = { ann with fs := divFs ann.fs p })
      ∧ ∀ r : Fin c, (outData bs).map (· r)
          = stride p ((cs.flatten.map (· r)).take ((cs.flatten.map (· r)).length / p * p)))
    ∧ (∃ bs, outputs (runStage discardStep p (stream ann s cs)) = .ok bs ∧ Contig 1 (s + p) bs ∧ (∀ b ∈ bs, b.ann = ann)
      ∧ ∀ r : Fin c, (outData bs).map (· r) = (cs.flatten.map (· r)).drop p) := by
  refine ⟨?_, ?_, ?_⟩
  · obtain ⟨bs, h1, h2, _⟩ := blocked_chunk_invariant p hp ann s cs
    exact ⟨bs, h1, h2.contig, h2.ann, fun r => by rw [h2.data, List.map_take, List.length_map]⟩
  · obtain ⟨bs, h1, h2⟩ := downsample_chunk_invariant divFs true p hp ann s cs
    exact ⟨bs, h1, h2.contig, h2.ann, fun r => by rw [h2.data, ← stride_map, List.map_take, List.length_map]⟩
  · obtain ⟨bs, h1, h2⟩ := discard_chunk_invariant p ann s cs
    exact ⟨bs, h1, h2.contig, h2.ann, fun r => by rw [h2.data, List.map_drop]⟩

/-- `rms(n)` on `c` channels: the block value is computed per channel (`np.mean(d ** 2, axis=-1) ** 0.5` keeps the
channel axis).  `derivative` with a scalar `initial_state`, broadcast to every channel. -/
theorem rms_derivative_multichannel (c : Nat) (blockFn : List α → β) (divFs : ρ → Nat → ρ) (n : Nat) (hn : 0 < n)
    (init : α) (d : α → α → β) (ann : Ann ρ χ μ) (s : Int) (cs : List (List (Fin c → α))) :
    (∃ bs, outputs (runStage (rmsStep (fun blk r => blockFn (blk.map (· r))) divFs n) {} (stream ann s cs)) = .ok bs
      ∧ Contig n s bs ∧ (∀ b ∈ bs, b.ann = { ann with fs := divFs ann.fs n })
      ∧ ∀ r : Fin c, (outData bs).map (· r) = (blocksOf n (cs.flatten.map (· r))).map blockFn)
    ∧ (∃ bs, outputs (runStage (derivativeStep (fun _ => init) (fun p x r => d (p r) (x r))) none (stream ann s cs)) = .ok bs
      ∧ Contig 1 s bs ∧ (∀ b ∈ bs, b.ann = ann)
      ∧ ∀ r : Fin c, (outData bs).map (· r) = diffs d (init :: cs.flatten.map (· r))) := by
  refine ⟨?_, ?_⟩
  · obtain ⟨bs, h1, h2⟩ := rms_chunk_invariant (fun (blk : List (Fin c → α)) r => blockFn (blk.map (· r))) divFs n hn ann s cs
    refine ⟨bs, h1, h2.contig, h2.ann, fun r => ?_⟩
    rw [h2.data, blocksOf_map, List.map_map, List.map_map]
    rfl
  · obtain ⟨bs, h1, h2⟩ := derivative_chunk_invariant (fun (_ : Fin c) => init) (fun p x r => d (p r) (x r)) ann s cs
    refine ⟨bs, h1, h2.contig, h2.ann, fun r => ?_⟩
    rw [h2.data]
    exact diffs_map_proj d r (fun (_ : Fin c) => init) cs.flatten

/-- `matrix @ column` for a `c' × c` matrix -/
def matVec {R : Type} [Add R] [Mul R] [Zero R] {c c' : Nat} (M : Fin c' → Fin c → R) (col : Fin c → R) : Fin c' → R :=
  fun i => (List.finRange c).foldl (fun acc j => acc + M i j * col j) 0

/-- `mc_reference(matrix)` with a `c' × c` matrix: `matrix @ data` on a `c × n` chunk is the matrix–vector product of
every time column.  `__array_finalize__` also copies the `c` channel labels — meaningful only for a square matrix. -/
theorem mc_reference_multichannel {R : Type} [Add R] [Mul R] [Zero R] {c c' : Nat} (M : Fin c' → Fin c → R)
    (ann : Ann ρ χ μ) (s : Int) (cs : List (List (Fin c → R))) :
    ∃ bs, outputs (runStage (transformStep (pointwise (matVec M))) () (stream ann s cs)) = .ok bs
      ∧ Contig 1 s bs ∧ (∀ b ∈ bs, b.ann = ann)
      ∧ (outData bs).length = cs.flatten.length
      ∧ ∀ (k : Nat) (h : k < (outData bs).length) (h' : k < cs.flatten.length) (i : Fin c'),
          (outData bs)[k] i = (List.finRange c).foldl (fun acc j => acc + M i j * cs.flatten[k] j) 0 := by
  obtain ⟨bs, h1, h2⟩ := mc_reference_chunk_invariant (matVec M) ann s cs
  refine ⟨bs, h1, h2.contig, h2.ann, by rw [h2.data, List.length_map], ?_⟩
  intro k h h' i
  have e : (outData bs)[k] = (cs.flatten.map (matVec M))[k]'(by rw [List.length_map]; exact h') := by
    congr 1
    exact h2.data
  rw [e, List.getElem_map]
  rfl

example : outputs (runStage (blockedStep 2) {} (stream (⟨(), (), ()⟩ : Ann Unit Unit Unit) 6 [[1], [], [2, 3, 4], [5]]))
    = .ok [⟨[1, 2], 6, ⟨(), (), ()⟩⟩, ⟨[3, 4], 8, ⟨(), (), ()⟩⟩] := by rfl

example : outputs (runStage (downsampleStep (fun (r : Nat) q => r / q) false 3) {}
      (stream (⟨900, (), ()⟩ : Ann Nat Unit Unit) 6 [[0, 1], [2, 3, 4], [5, 6]]))
    = .ok [⟨[0], 6, ⟨300, (), ()⟩⟩, ⟨[3], 7, ⟨300, (), ()⟩⟩] := by rfl

/-- running sum as a stand-in for `lfilter`: q = 3, chunks 5 + 5 (the recon counterexample of the unrepaired code) -/
example : outputs (runStage (decimateStep (⟨fun s a => (s + a, s + a)⟩ : Mealy Nat Nat Nat).run 0 (fun (r : Nat) q => r / q) 3) none
      (stream (⟨900, (), ()⟩ : Ann Nat Unit Unit) 0 [[1, 1, 1, 1, 1], [1, 1, 1, 1, 1]]))
    = .ok [⟨[1], 0, ⟨300, (), ()⟩⟩, ⟨[4, 7], 1, ⟨300, (), ()⟩⟩] := by rfl

example : outputs (runStage discardStep 3 (stream (⟨(), (), ()⟩ : Ann Unit Unit Unit) 0 [[1, 2], [3, 4], [5]]))
    = .ok [⟨[4], 3, ⟨(), (), ()⟩⟩, ⟨[5], 4, ⟨(), (), ()⟩⟩] := by rfl

example : outputs (runStage (rmsStep List.sum (fun (r : Nat) q => r / q) 2) {}
      (stream (⟨1000, (), ()⟩ : Ann Nat Unit Unit) 4 [[1], [2, 3], [4, 5]]))
    = .ok [⟨[3], 4, ⟨500, (), ()⟩⟩, ⟨[7], 6, ⟨500, (), ()⟩⟩] := by rfl

example : outputs (runStage (derivativeStep 0 (fun (p c : Int) => c - p)) none
      (stream (⟨(), (), ()⟩ : Ann Unit Unit Unit) 5 [[1, 4], [], [9]]))
    = .ok [⟨[1, 3], 5, ⟨(), (), ()⟩⟩, ⟨[], 7, ⟨(), (), ()⟩⟩, ⟨[5], 7, ⟨(), (), ()⟩⟩] := by rfl

example : outputs (runStage (iirStep (⟨fun s a => (s + a, s + a)⟩ : Mealy Nat Nat Nat).run (fun x0 => 10 * x0)) none
      (stream (⟨(), (), ()⟩ : Ann Unit Unit Unit) 0 [[1, 2], [3]]))
    = .ok [⟨[11, 13], 0, ⟨(), (), ()⟩⟩, ⟨[16], 2, ⟨(), (), ()⟩⟩] := by rfl

/-- a kernel like SciPy's: running sum on non-empty input, garbage final state 99 on empty input; with the guard an
empty chunk in the middle is harmless -/
example : LfilterIs (fun (z : Nat) (x : List Nat) => if x = [] then ([], 99) else
    (⟨fun s a => (s + a, s + a)⟩ : Mealy Nat Nat Nat).run z x) ⟨fun s a => (s + a, s + a)⟩ :=
  ⟨fun z x hx => by simp [hx], fun z => by simp⟩

example : outputs (runStage (iirStep (fun (z : Nat) (x : List Nat) => if x = [] then ([], 99) else
      (⟨fun s a => (s + a, s + a)⟩ : Mealy Nat Nat Nat).run z x) (fun x0 => 10 * x0)) none
      (stream (⟨(), (), ()⟩ : Ann Unit Unit Unit) 0 [[1, 2], [], [3]]))
    = .ok [⟨[11, 13], 0, ⟨(), (), ()⟩⟩, ⟨[], 2, ⟨(), (), ()⟩⟩, ⟨[16], 2, ⟨(), (), ()⟩⟩] := by rfl

example : outputs (runStage (decimateStep (fun (z : Nat) (x : List Nat) => if x = [] then ([], 99) else
      (⟨fun s a => (s + a, s + a)⟩ : Mealy Nat Nat Nat).run z x) 0 (fun (r : Nat) q => r / q) 2) none
      (stream (⟨900, (), ()⟩ : Ann Nat Unit Unit) 0 [[], [1, 1, 1], [], [1]]))
    = .ok [⟨[1], 0, ⟨450, (), ()⟩⟩, ⟨[3], 1, ⟨450, (), ()⟩⟩] := by rfl

example : outputs (runStage (autoThStep (fun l => l.sum) (fun th (x : Nat) => decide (th ≤ x)) (fun th m => th :: m) 3) .first
      (stream (⟨(), (), ([] : List Nat)⟩ : Ann Unit Unit (List Nat)) 0 [[1, 2], [0, 9], [4]]))
    = .ok [⟨[false, false, false, true], 0, ⟨(), (), [3]⟩⟩, ⟨[true], 4, ⟨(), (), [3]⟩⟩] := by rfl

/-- block_size 20, block_step 20; events at 3, 4, 25 in [0,30), then [30,100): rates 2,1,0,0 (the recon run) -/
example : outputs (runStage (eventRateStep (fun (r : Nat) q => r / q) () () 20 20) none
      [⟨[3, 4, 25], 0, 30, 1000⟩, ⟨[], 30, 100, 1000⟩])
    = .ok [⟨[2, 1, 0, 0], 20, ⟨50, (), ()⟩⟩] := by rfl

/-- three objects: events out of order, an empty span, overlapping windows (size 4, step 2); below, the same stream
in two objects -/
example : WFEvents (1000 : Nat) 5 [⟨[9, 7, 6, 9], 5, 10, 1000⟩, ⟨[], 10, 10, 1000⟩, ⟨[12], 10, 16, 1000⟩] := by
  simp [WFEvents]

example : outputs (runStage (eventRateStep (fun (r : Nat) q => r / q) () () 4 2) none
      [⟨[9, 7, 6, 9], 5, 10, 1000⟩, ⟨[], 10, 10, 1000⟩, ⟨[12], 10, 16, 1000⟩])
    = .ok [⟨[2], 14, ⟨500, (), ()⟩⟩, ⟨[3, 3, 1], 16, ⟨500, (), ()⟩⟩] := by rfl

example : outputs (runStage (eventRateStep (fun (r : Nat) q => r / q) () () 4 2) none
      [⟨[6], 5, 7, 1000⟩, ⟨[9, 12, 9, 7], 7, 16, 1000⟩])
    = .ok [⟨[2, 3, 3, 1], 14, ⟨500, (), ()⟩⟩] := by rfl

example : rateSpec 4 2 5 16 [9, 7, 6, 9, 12] = [2, 3, 3, 1] := by decide

example : Contig 2 20 [(⟨[2, 1, 0, 0], 20, ⟨(), (), ()⟩⟩ : PD Nat Unit Unit Unit), ⟨[5], 28, ⟨(), (), ()⟩⟩] :=
  ⟨rfl, rfl, trivial⟩

/-- `blocked(3)` holds 2 buffered samples when the restart signal arrives; the code keeps `n = 2` -/
example : outputs (runStage (blockedStepE 3) {} (restartInput
      (⟨⟨(), (), ()⟩, 6, [[1, 2, 3, 4], [5]]⟩ : Seg Nat Unit Unit Unit) [⟨⟨(), (), ()⟩, 100, [[7], [8, 9, 10]]⟩]))
    = .ok [.data ⟨[1, 2, 3], 6, ⟨(), (), ()⟩⟩, .restart, .data ⟨[7, 8, 9], 100, ⟨(), (), ()⟩⟩] := by rfl

example : outputs (runStage (discardStepE 2) 2 (restartInput
      (⟨⟨(), (), ()⟩, 0, [[1], [2, 3]]⟩ : Seg Nat Unit Unit Unit) [⟨⟨(), (), ()⟩, 50, [[7, 8, 9]]⟩, ⟨⟨(), (), ()⟩, 9, [[4]]⟩]))
    = .ok [.data ⟨[3], 2, ⟨(), (), ()⟩⟩, .restart, .data ⟨[9], 52, ⟨(), (), ()⟩⟩, .restart] := by rfl

/-- rms(2) on a stream starting at 2·2: numerators 4, 6 ↦ true s0 2, 3 -/
example : (outputs (runStage (rmsStep List.sum (fun (r : Nat) q => r / q) 2) {}
      (stream (⟨1000, (), ()⟩ : Ann Nat Unit Unit) (2 * 2) [[1], [2, 3], [4, 5]]))).toOption.map (List.map (PD.divS0 2))
    = some [⟨[3], 2, ⟨500, (), ()⟩⟩, ⟨[7], 3, ⟨500, (), ()⟩⟩] := by rfl

/-- two 2-channel blocks (columns as functions) through the C11 `concat`: row-major `2 × 3` result -/
example : PData.concat ([(⟨[fun i => 1 + 9 * i.val, fun i => 2 + 18 * i.val], 5, ⟨1000, [some "a", none], 0⟩⟩ :
        PD (Fin 2 → Nat) Rat _ _),
      ⟨[fun i => 3 + 27 * i.val], 7, ⟨1000, [some "a", none], 0⟩⟩].map toPData2) .time
    = .ok ⟨[2, 3], [1, 2, 3, 10, 20, 30], 5, 1000, .many [some "a", none], .one 0⟩ := by rfl

/-- the 2-channel product of the running-sum machine meets the kernel hypothesis of the multi-channel theorems -/
example : LfilterIs ((⟨fun s a => (s + a, s + a)⟩ : Mealy Nat Nat Nat).channels 2).run
    ((⟨fun s a => (s + a, s + a)⟩ : Mealy Nat Nat Nat).channels 2) :=
  ⟨fun _ _ _ => rfl, fun _ => rfl⟩

example : (((⟨fun s a => (s + a, s + a)⟩ : Mealy Nat Nat Nat).channels 2).run (fun _ => 0)
    [fun r => 1 + r.val, fun r => 10 + r.val]).1.map (· 1) = [2, 13] := by decide

example : matVec (fun (i j : Fin 2) => if i = j then (1 : Int) else -1) (fun j => if j = 0 then 5 else 3) 0 = 2
    ∧ matVec (fun (i j : Fin 2) => if i = j then (1 : Int) else -1) (fun j => if j = 0 then 5 else 3) 1 = -2 := by
  decide

end Psi.Stages

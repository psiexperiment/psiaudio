import PsiModel.Stim
import PsiProofs.Helper.C01_Chunk
import PsiProofs.Helper.C01_Env
import PsiProofs.Helper.C01_Gate
import PsiProofs.Helper.C01_Square
import PsiProofs.Helper.C01_Stim
import PsiProofs.Helper.C01_Repeat
/-!
# C01 — stimulus generators are chunk-invariant

The fragment theorems (the code's integer arithmetic returns the slice of a function of the absolute
sample index) are proved in `PsiProofs/Helper/C01_*.lean`; here are their test vectors, the witnesses
against the unchanged arithmetic, and chunk invariance of every finite nesting of factories.
`ChunkInvariant g s`: `drawAll g s ns = (g.next s ns.sum).1` for every chunk list `ns`, of any length.
-/
set_option linter.dupNamespace false
namespace Psi.Stim
open Psi.Chunk

example : (⟨2, 10, some 3⟩ : EnvP).riseN * 2 ≤ (⟨2, 10, some 3⟩ : EnvP).dur := by decide
example : envelopeFrag (Cell.a .ramp 0) 2 10 3 3 9
    = [.a .ramp 0 1, .a .ramp 0 2, .o, .o, .o, .o, .a .ramp 0 3, .a .ramp 0 4, .a .ramp 0 5] := by decide

example : gateMask 3 4 2 (slice (Cell.a .carrier 0) 2 6)
    = [.z, .a .carrier 0 3, .a .carrier 0 4, .a .carrier 0 5, .a .carrier 0 6, .z] := by decide

/-- The unchanged `GateFactory.next` lets the carrier through in a chunk that starts at the gate end. -/
theorem gate_legacy_counterexample :
    gateMaskLegacy 0 1 1 [Cell.a .carrier 0 1] ≠ applyAt (gateAt 0 1) 1 [Cell.a .carrier 0 1] := by decide

example : fixedNext [Cell.a .carrier 0 0, .a .carrier 0 1, .a .carrier 0 2] 2 3
    = [.a .carrier 0 2, .z, .z] := by decide

example : samEnvelope (samCell 0) 3 2 3 = [.o, .a .sam 0 0, .a .sam 0 1] := by decide

/-- The unchanged `_sam_envelope` uses another time origin in the chunk that contains the delay end. -/
theorem sam_legacy_counterexample :
    samEnvelopeLegacy (samCell 0) 2 0 3 ≠ slice (samAt (samCell 0) 2) 0 3 := by decide

example : squareWaveNext 4 2 (Cell.c .high 1) 3 7
    = [.z, .c .high 1, .c .high 1, .z, .z, .c .high 1, .c .high 1] := by decide

/-- `SqP.periodAt k`, the index the specification `squareAt` uses, is the one modulation period in
progress at sample `k`; `startOf i` is `round(fm_samples·i)`, Python round-half-even of the exact product. -/
theorem square_period_in_progress (p : SqP) (hp : 0 < p.period) (k : Nat) :
    p.startOf (p.periodAt k) ≤ (k : Int) ∧ (k : Int) < p.startOf (p.periodAt k + 1) ∧
      ∀ i : Int, p.startOf i ≤ (k : Int) → (k : Int) < p.startOf (i + 1) → i = p.periodAt k :=
  ⟨(periodAt_spec p hp k).1, (periodAt_spec p hp k).2, fun i h1 h2 => periodAt_unique p hp k i h1 h2⟩

example : (⟨7 / 2, 4⟩ : SqP).periodAt 7 = 2 ∧ (⟨7 / 2, 4⟩ : SqP).startOf 2 = 7
    ∧ (⟨7 / 2, 4⟩ : SqP).startOf 1 = 4 ∧ (⟨7 / 2, 4⟩ : SqP).startOf 3 = 10 := by decide +kernel

example : (0 : Rat) < (⟨7 / 2, 4⟩ : SqP).period := by decide +kernel
/-- period 3.5, duty 4: starts 0, 4, 7, 10 (3.5 → 4 and 10.5 → 10 by half-even); the windows
[4,8) and [7,11) overlap at sample 7, which shows table entry 0 of the later period. -/
example : squareWave (Cell.a .tukey 0) (Cell.c .low 0) ⟨7 / 2, 4⟩ 5 6
    = [.a .tukey 0 1, .a .tukey 0 2, .a .tukey 0 0, .a .tukey 0 1, .a .tukey 0 2, .a .tukey 0 0] := by
  decide +kernel

/-- For a positive period the break test `fm_samples * i_period - offset > samples` is reached within
`squareFuel` passes: the fuel-bounded `squareLoop` is the `while True` loop of `square_wave`. -/
theorem square_wave_fuel_sufficient {α : Type} (tbl env : List α) (p : SqP) (hp : 0 < p.period)
    (off n extra : Nat) :
    squareLoop tbl p off n (squareFuel p n + extra) ((off : Rat) / p.period).floor env
      = squareLoop tbl p off n (squareFuel p n) ((off : Rat) / p.period).floor env :=
  squareLoop_extra_fuel tbl p off n extra (squareFuel p n) _ env (by unfold squareFuel; omega)
    (squareFuel_sufficient p hp off n)

example : ((⟨-10, 0⟩ : SqP).period < 0) := by decide +kernel

example : repeatWave ⟨2, 1, 4, 1⟩ [Cell.a .carrier 0 0, .a .carrier 0 1]
    = .ok [.z, .z, .z, .z, .z, .a .carrier 0 0, .a .carrier 0 1, .z, .z, .a .carrier 0 0, .a .carrier 0 1, .z] := rfl

/-- `repeat()` refuses exactly the waveforms that do not fit between the delay and the period end. -/
theorem repeat_rejects_iff {α : Type} [Sample α] (p : RepP) (w : List α) :
    repeatWave p w = .error .valueError ↔ p.period < w.length + p.delay := by
  unfold repeatWave
  constructor
  · intro h
    split at h
    · omega
    · cases h
  · intro h
    rw [if_pos (by omega)]

/-- Tone, SAMTone, Silence: a carrier whose sample `k` depends on `k` only. -/
theorem pointwise_chunk_invariant {α : Type} (f : Nat → α) (off : Nat) :
    ChunkInvariant (pointwise f) off :=
  (pointwise_additive f).chunkInvariant off

/-- Noise factories: RNG stream, affine map, up to two stateful filters, sign — for every draw
function, every filter step function and every state. -/
theorem noise_chunk_invariant {τ υ φ α : Type} (draw : τ → α × τ) (affine sign : α → α)
    (step₁ : υ → α → α × υ) (step₂ : φ → α → α × φ) (s : φ × υ × τ) :
    ChunkInvariant (mapG sign (mealy step₂ (mealy step₁ (mapG affine (stream draw))))) s :=
  (mapG_additive sign (mealy_additive step₂ (mealy_additive step₁
    (mapG_additive affine (stream_additive draw))))).chunkInvariant s

example : drawAll (mapG (· * 2) (mealy (fun (acc : Nat) x => (acc + x, acc + x)) (stream fun (t : Nat) => (t, t + 1))))
    (0, 5) [1, 2, 1] = [10, 22, 36, 52] := by decide

/-- Transform / Modulator over *any* chunk-invariant input: a stateful filter (`lfilter` with `zi`). -/
theorem mealy_chunk_invariant {σ τ α β : Type} (step : τ → α → β × τ) (g : Gen σ α) (hg : Additive g)
    (s : τ × σ) : ChunkInvariant (mealy step g) s :=
  (mealy_additive step hg).chunkInvariant s

/-- Gate, envelope and modulator factories over *any* chunk-invariant input. -/
theorem transform_chunk_invariant {σ α β : Type} (h : Nat → α → β) (g : Gen σ α) (hg : Additive g)
    (s : Nat × σ) : ChunkInvariant (transformAt h g) s :=
  (transformAt_additive h hg).chunkInvariant s

def Stim.SqFree : Stim → Prop
  | .leaf _ _ => True
  | .sqwave _ _ _ _ => True
  | .fixed _ _ => True
  | .gate _ _ _ inner => inner.SqFree
  | .env _ _ _ inner => inner.SqFree
  | .sam _ _ _ inner => inner.SqFree
  | .sqenv _ _ _ _ => False
  | .filt _ _ _ inner => inner.SqFree

theorem Stim.wfs_of_wf (g : Stim) (h : g.WF) (_hs : g.SqFree) : g.WFs := h.wfs

/-- C01: every finite nesting of Tone/SAMTone/Silence/noise carriers, SquareWaveFactory, FixedWaveform
(Click, Chirp, Repeat), GateFactory, EnvelopeFactory (rise `None` included), SAMEnvelopeFactory,
SquareWaveEnvelopeFactory and filter transforms yields, from any state and for every list of chunk
sizes (chunks past the end of a finite stimulus included), the samples of the single request.  `WF`
is the guard under which the constructors work and `next` does not raise (`cycle > 0`,
`2·rise ≤ duration`, `fm_samples > 0`).
`square_wave` is covered in exact rational arithmetic (`square_fragment_eq_slice`); float conformance
of `fm_samples * i` and `offset // fm_samples` is in the trusted base. -/
theorem stim_chunk_invariant_all (g : Stim) (hwf : g.WF) : ChunkInvariant stimGen g :=
  fun ns => stim_drawAll g hwf.wfs ns

example : (Stim.gate 3 40 0 (.sqenv 4 ⟨7 / 2, 4⟩ 0 (.env 1 ⟨2, 10, some 3⟩ 0 (.sqenv 5 ⟨2 / 5, 1⟩ 0 (.leaf 0 0))))).WF := by
  refine ⟨by decide +kernel, by simp [EnvP.riseN], by decide +kernel, trivial⟩
example : drawAll stimGen (Stim.gate 3 40 0 (.sqenv 4 ⟨7 / 2, 4⟩ 0 (.leaf 0 0))) [2, 3, 1, 9, 5]
    = ((Stim.gate 3 40 0 (.sqenv 4 ⟨7 / 2, 4⟩ 0 (.leaf 0 0))).next 20).1 := by decide +kernel

/-- SquareWaveEnvelopeFactory over any well-formed input. -/
theorem squareenv_chunk_invariant (id : Nat) (p : SqP) (hp : 0 < p.period) (off : Nat) (inner : Stim)
    (hwf : inner.WF) : ChunkInvariant stimGen (.sqenv id p off inner) :=
  stim_chunk_invariant_all _ ⟨hp, hwf⟩

/-- The fragment without SquareWaveEnvelopeFactory; `SqFree` is not needed. -/
theorem stim_chunk_invariant (g : Stim) (hwf : g.WF) (_hsq : g.SqFree) : ChunkInvariant stimGen g :=
  stim_chunk_invariant_all g hwf

example : (Stim.gate 3 4 0 (.env 1 ⟨2, 10, some 3⟩ 0 (.sam 2 5 0 (.leaf 0 0)))).WF := by
  simp [Stim.WF, EnvP.riseN]
example : (Stim.gate 3 4 0 (.env 1 ⟨2, 10, some 3⟩ 0 (.sam 2 5 0 (.leaf 0 0)))).SqFree := by
  simp [Stim.SqFree]
example : drawAll stimGen (Stim.gate 3 4 0 (.env 1 ⟨2, 10, none⟩ 0 (.leaf 0 0))) [2, 3, 1, 9]
    = ((Stim.gate 3 4 0 (.env 1 ⟨2, 10, none⟩ 0 (.leaf 0 0))).next 15).1 := by decide

/-- `WFs` asks `SquareSliceLaw` at every SquareWaveEnvelopeFactory node; it follows from `WF`
(`squareSliceLaw_of_pos`, `Stim.WF.wfs`). -/
theorem stim_chunk_invariant_partial (g : Stim) (h : g.WFs) : ChunkInvariant stimGen g :=
  fun ns => stim_drawAll g h ns

/-- GateFactory, and below the other factory classes, over any input as in `stim_chunk_invariant`. -/
theorem gate_chunk_invariant (start dur off : Nat) (inner : Stim) (hwf : inner.WF) (hsq : inner.SqFree) :
    ChunkInvariant stimGen (.gate start dur off inner) :=
  stim_chunk_invariant _ hwf hsq

theorem envelope_chunk_invariant (id : Nat) (p : EnvP) (hp : p.riseN * 2 ≤ p.dur) (off : Nat) (inner : Stim)
    (hwf : inner.WF) (hsq : inner.SqFree) : ChunkInvariant stimGen (.env id p off inner) :=
  stim_chunk_invariant _ ⟨hp, hwf⟩ hsq

theorem sam_chunk_invariant (id delay off : Nat) (inner : Stim) (hwf : inner.WF) (hsq : inner.SqFree) :
    ChunkInvariant stimGen (.sam id delay off inner) :=
  stim_chunk_invariant _ hwf hsq

theorem squarewave_chunk_invariant (id cycle on off : Nat) (hc : 0 < cycle) :
    ChunkInvariant stimGen (.sqwave id cycle on off) :=
  stim_chunk_invariant _ hc trivial

theorem fixed_chunk_invariant (w : List Cell) (off : Nat) : ChunkInvariant stimGen (.fixed w off) :=
  stim_chunk_invariant _ trivial trivial

theorem filter_chunk_invariant (id j off : Nat) (inner : Stim) (hwf : inner.WF) (hsq : inner.SqFree) :
    ChunkInvariant stimGen (.filt id j off inner) :=
  stim_chunk_invariant _ hwf hsq

/-- RepeatFactory: whatever `repeat()` lays out is served as a FixedWaveform, hence chunk-invariant. -/
theorem repeat_chunk_invariant (p : RepP) (inner g : Stim) (h : mkRepeat p inner = .ok g) :
    ChunkInvariant stimGen g := by
  unfold mkRepeat at h
  split at h
  · split at h
    · cases h
    · split at h
      · cases h; exact fixed_chunk_invariant _ _
      · cases h
  · cases h

example : ∃ g, mkRepeat ⟨2, 1, 5, 1⟩ (.fixed [Cell.a .carrier 0 0, .a .carrier 0 1] 0) = .ok g := ⟨_, rfl⟩

end Psi.Stim

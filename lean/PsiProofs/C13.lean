import PsiModel.Edges
import PsiProofs.Helper.C13_Tiling
/-!
C13 — edge detection reports every clean transition once, at its exact sample.

`run m det (init m i0 s0in) cs` is the code-faithful model of feeding the chunks `cs` to
`pipeline.edges(min_samples = m, initial_state = i0, detect = det)` whose first chunk starts at
absolute sample `s0in`.  `edgesOf i0 s0in x` is the specification: all positions of `x = cs.flatten`
whose value differs from the predecessor (the first one is compared with `i0`), with absolute sample
numbers.  `Clean m i0 x`: any two transitions are more than `m` samples apart.  `m ≥ 1` is assumed wherever the
detector's events are compared with `edgesOf`; the span and ordering facts need no bound on `m`.
-/
namespace Psi.Edges
open Psi.Epochs

/-- On a clean stream the detector never raises and the block emitted for chunk `j` is that of `specBlocks`: span
`[s0_j, s0_j + n_j)` with `s0_0 = s0in - m`, events = the transitions of the stream selected by `sel` (spelled out
in `block_events_iff`).  The final state carries the last `m` samples. -/
theorem run_eq_spec (m : Nat) (det : Detect) (i0 : Bool) (s0in : Int) (cs : List (List Bool))
    (hm : 1 ≤ m) (hc : Clean m i0 cs.flatten) :
    run m det (init m i0 s0in) cs
      = .ok (⟨(List.replicate m i0 ++ cs.flatten).drop cs.flatten.length,
              s0in - m + cs.flatten.length⟩,
             specBlocks det m (edgesOf i0 s0in cs.flatten) (s0in - m) cs) := by
  have h := run_spec_aux m det i0 (s0in - m) hm cs [] (List.replicate m i0) List.length_replicate
  rw [List.nil_append, edgesOf_replicate_append, Int.sub_add_cancel] at h
  simpa [init] using h (clean_at hc s0in)

/-- One block per chunk, and the declared spans tile the timeline from `s0in - m` — for every input stream (no
`Clean`). -/
theorem one_block_per_chunk_blocks_tile (m : Nat) (det : Detect) (i0 : Bool) (s0in : Int)
    (cs : List (List Bool)) :
    ∃ st' bs, run m det (init m i0 s0in) cs = .ok (st', bs) ∧
      bs.length = cs.length ∧
      bs.map (fun b => (b.start, b.stop)) = spans (s0in - m) cs ∧
      adjacent (s0in - m) bs = true := by
  obtain ⟨st', bs, h1, h2⟩ := run_spans m det cs (init m i0 s0in)
  refine ⟨st', bs, h1, ?_, h2, adjacent_of_spans cs _ bs h2⟩
  have := congrArg List.length h2
  simp only [List.length_map] at this
  rw [this, spans_length]

/-- Each transition once, in one block, at its exact sample.  The chunk's input samples are `[b.start + m, b.stop + m)`:
a rising edge at `p` is in `b` iff input sample `p + m - 1` belongs to that chunk, a falling edge iff input sample `p`
itself does.  These ranges tile ℤ. -/
theorem block_events_iff (m : Nat) (det : Detect) (i0 : Bool) (s0in : Int) (cs : List (List Bool))
    (hm : 1 ≤ m) (hc : Clean m i0 cs.flatten) :
    ∃ st' bs, run m det (init m i0 s0in) cs = .ok (st', bs) ∧
    ∀ b ∈ bs, ∀ ev : Event, ev ∈ b.events ↔
      ev ∈ edgesOf i0 s0in cs.flatten ∧ det.wants ev.kind = true ∧
      ((ev.kind = .rising ∧ b.start < ev.sample ∧ ev.sample ≤ b.stop) ∨
       (ev.kind = .falling ∧ b.start + m ≤ ev.sample ∧ ev.sample < b.stop + m)) := by
  refine ⟨_, _, run_eq_spec m det i0 s0in cs hm hc, ?_⟩
  intro b hb ev
  obtain ⟨n, h1, h2⟩ := specBlocks_mem det m _ cs _ b hb
  rw [h2, List.mem_filter, sel_iff, h1, Int.add_right_comm]

/-- Exactly once and in stream order: all emitted blocks together are the stream's wanted transitions that are already
decidable — every falling edge, and every rising edge followed by at least `m - 1` further samples. -/
theorem all_events (m : Nat) (det : Detect) (i0 : Bool) (s0in : Int) (cs : List (List Bool))
    (hm : 1 ≤ m) (hc : Clean m i0 cs.flatten) :
    ∃ st' bs, run m det (init m i0 s0in) cs = .ok (st', bs) ∧
    bs.flatMap (·.events) = (edgesOf i0 s0in cs.flatten).filter (fun ev =>
      det.wants ev.kind &&
        (ev.kind != .rising || decide (ev.sample + m ≤ s0in + cs.flatten.length))) := by
  refine ⟨_, _, run_eq_spec m det i0 s0in cs hm hc, ?_⟩
  rw [specBlocks_flat det m hm _ (clean_at hc s0in)]
  apply List.filter_congr
  intro ev hev
  have hb := edgesOf_bounds _ _ _ ev hev
  generalize cs.flatten.length = N at hb ⊢
  rw [Bool.eq_iff_iff, sel_iff]
  cases ev.kind <;> simp <;> intros <;> omega

theorem edges_strictly_increasing (m : Nat) (i0 : Bool) (s0in : Int) (x : List Bool)
    (hc : Clean m i0 x) : (edgesOf i0 s0in x).Pairwise (fun a b => a.sample < b.sample) := by
  refine List.Pairwise.imp ?_ (clean_at hc s0in)
  intro a b h; simp only [Gap] at h; omega

/-- In order, no duplicate. -/
theorem in_order (m : Nat) (det : Detect) (i0 : Bool) (s0in : Int) (cs : List (List Bool))
    (hm : 1 ≤ m) (hc : Clean m i0 cs.flatten) :
    ∃ st' bs, run m det (init m i0 s0in) cs = .ok (st', bs) ∧
    (bs.flatMap (·.events)).Pairwise (fun a b => a.sample < b.sample) := by
  obtain ⟨st', bs, h1, h2⟩ := all_events m det i0 s0in cs hm hc
  refine ⟨st', bs, h1, ?_⟩
  rw [h2]
  exact (edges_strictly_increasing m i0 s0in _ hc).filter _

/-- Once the chunks `cs1` have been received, every wanted transition followed by at least `m - 1` further samples has
been reported in one of the blocks emitted so far, whatever comes later (`cs2`). -/
theorem lag_le_m (m : Nat) (det : Detect) (i0 : Bool) (s0in : Int) (cs1 cs2 : List (List Bool))
    (hm : 1 ≤ m) (hc : Clean m i0 (cs1 ++ cs2).flatten) :
    ∃ st' bs, run m det (init m i0 s0in) (cs1 ++ cs2) = .ok (st', bs) ∧
    ∀ ev ∈ edgesOf i0 s0in (cs1 ++ cs2).flatten, det.wants ev.kind = true →
      ev.sample + m ≤ s0in + cs1.flatten.length →
      ev ∈ (bs.take cs1.length).flatMap (·.events) := by
  refine ⟨_, _, run_eq_spec m det i0 s0in _ hm hc, ?_⟩
  intro ev hev hw hlag
  rw [specBlocks_append, List.take_left' (specBlocks_length det m _ cs1 _),
    specBlocks_flat det m hm _ (clean_at hc s0in),
    List.mem_filter, sel_iff]
  have hb := edgesOf_bounds _ _ _ ev hev
  refine ⟨hev, hw, ?_⟩
  cases hk : ev.kind
  · left; refine ⟨rfl, ?_, ?_⟩ <;> omega
  · right; refine ⟨rfl, ?_, ?_⟩ <;> omega

/-- Causality: a block never contains an event at a sample not yet received (`b.stop + m` = `s0in` + number of samples
received when `b` is emitted). -/
theorem causal (m : Nat) (det : Detect) (i0 : Bool) (s0in : Int) (cs : List (List Bool))
    (hm : 1 ≤ m) (hc : Clean m i0 cs.flatten) :
    ∃ st' bs, run m det (init m i0 s0in) cs = .ok (st', bs) ∧
    ∀ b ∈ bs, ∀ ev ∈ b.events, ev.sample < b.stop + m := by
  obtain ⟨st', bs, h1, h2⟩ := block_events_iff m det i0 s0in cs hm hc
  refine ⟨st', bs, h1, ?_⟩
  intro b hb ev hev
  obtain ⟨_, _, h | h⟩ := (h2 b hb ev).mp hev <;> omega

/-- `Events.get_range_samples` raises `ValueError` unless the range lies inside the block's span. -/
theorem getRangeSamples_spec (b : Block) (s e : Int) :
    (b.start ≤ s ∧ e ≤ b.stop →
      getRangeSamples b s e = .ok ⟨b.events.filter
        (fun ev => decide (s ≤ ev.sample) && decide (ev.sample < e)), s, e⟩) ∧
    (¬ (b.start ≤ s ∧ e ≤ b.stop) → getRangeSamples b s e = .error .valueError) := by
  unfold getRangeSamples
  constructor
  · intro ⟨h1, h2⟩
    have : ¬ (s < b.start ∨ e > b.stop) := by omega
    simp [this]
  · intro h
    have : s < b.start ∨ e > b.stop := by omega
    simp [this]

theorem getRangeSamples_mem (b r : Block) (s e : Int) (h : getRangeSamples b s e = .ok r) :
    (∀ ev, ev ∈ r.events ↔ ev ∈ b.events ∧ s ≤ ev.sample ∧ ev.sample < e) ∧
    r.events.Sublist b.events ∧ r.start = s ∧ r.stop = e := by
  unfold getRangeSamples at h
  split at h
  · cases h
  · cases h
    refine ⟨?_, List.filter_sublist, rfl, rfl⟩
    intro ev; simp [List.mem_filter]

theorem getLatestSamples_spec (b : Block) (lb ub : Int) :
    getLatestSamples b lb ub = getRangeSamples b (b.stop + lb) (b.stop + ub) := by
  unfold getLatestSamples
  rw [Int.add_comm lb, Int.add_comm ub]

/-- `combine_events` accepts a non-empty list iff each block starts where the previous one ended. -/
theorem combineEvents_spec (b : Block) (bs : List Block) :
    (adjacent b.stop bs = true →
      combineEvents (b :: bs) = .ok ⟨(b :: bs).flatMap (·.events), b.start, lastStop b bs⟩) ∧
    (adjacent b.stop bs = false → combineEvents (b :: bs) = .error .valueError) := by
  constructor <;> intro h <;> simp [combineEvents, h]

theorem combineEvents_rejects (b1 b2 : Block) (pre post : List Block) (h : b1.stop ≠ b2.start) :
    combineEvents (pre ++ b1 :: b2 :: post) = .error .valueError := by
  cases pre with
  | nil => simp [combineEvents, adjacent, Ne.symm h]
  | cons p pre => simp [combineEvents, adjacent_false_of_gap b1 b2 post h pre]

/-- `combine_events` of all the blocks a detector has emitted: one block over the whole span with the events of
`all_events`. -/
theorem combine_detector_blocks (m : Nat) (det : Detect) (i0 : Bool) (s0in : Int)
    (c : List Bool) (cs : List (List Bool)) (hm : 1 ≤ m) (hc : Clean m i0 (c :: cs).flatten) :
    ∃ st' bs r, run m det (init m i0 s0in) (c :: cs) = .ok (st', bs) ∧
      combineEvents bs = .ok r ∧ r.start = s0in - m ∧
      r.events = (edgesOf i0 s0in (c :: cs).flatten).filter
        (sel det m (s0in - m) (c :: cs).flatten.length) := by
  refine ⟨_, _, _, run_eq_spec m det i0 s0in (c :: cs) hm hc,
    (combineEvents_spec _ _).1 (adjacent_specBlocks det m _ cs _), rfl, ?_⟩
  exact specBlocks_flat det m hm _ (clean_at hc s0in) (c :: cs) _

/-- Every stream of the property's quantifier — alternating non-empty runs, all but possibly the last longer than `m` —
satisfies `Clean`.  `Clean` is weaker: it does not constrain the first run when it continues the initial state. -/
theorem clean_ofRuns (m : Nat) (i0 v : Bool) (ls : List Nat)
    (h1 : ∀ l ∈ ls, 1 ≤ l) (h2 : ∀ l ∈ ls.dropLast, m < l) : Clean m i0 (ofRuns v ls) :=
  gap_ofRuns m ls v i0 0 h1 h2

example : ofRuns false [4, 3, 5] =
    [false, false, false, false, true, true, true, false, false, false, false, false] := rfl

example : Clean 2 false [false, false, false, false, true, true, true, false, false, false, false, false] := by
  unfold Clean Gap; decide +kernel

-- chunk boundaries inside the debounce window of both edges; events outside their block's span
example : run 2 .both (init 2 false 100)
    [[false, false, false, false, true], [true], [true, false], [false, false, false, false]]
    = .ok (⟨[false, false], 110⟩,
        [⟨[], 98, 103⟩, ⟨[⟨.rising, 104⟩], 103, 104⟩, ⟨[⟨.falling, 107⟩], 104, 106⟩, ⟨[], 106, 110⟩]) := by
  rfl

end Psi.Edges

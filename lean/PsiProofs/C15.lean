import PsiProofs.Helper.C15_Serial
import PsiGen.Locks
/-!
# C15 — signal buffer operations are atomic under concurrent use

General part: if every pending operation of every thread is atomic (`atomicK`: one outermost span
of the re-entrant lock, nothing outside it) then under every schedule — any length, any number of
threads, no pre-emption bound — the configuration reached (shared state, each thread's local state
= the results its operations returned, remaining programs) is a serial execution of whole
operations in lock-acquisition order.  Specific part: the footprint table regenerated from
`psiaudio/buffer.py` (`PsiGen/Locks.lean`) makes every public `SignalBuffer` operation atomic.
-/
namespace Psi.Conc
variable {S L : Type}

theorem reachable_good (c0 : Config S L) (h0 : Quiescent c0) (sch : List Nat) : Good c0 (run sch c0) :=
  good_run sch c0 ⟨[], c0, .nil, h0, by simp, Or.inl rfl⟩

/-- Whatever the schedule, the configuration reached is `cs` — the result of running whole
    operations one at a time in the order in which they took the lock — or `cs` followed by `j`
    steps of the one thread that currently holds the lock. -/
theorem serialisable (c0 : Config S L) (h0 : Quiescent c0) (hlog : c0.log = []) (sch : List Nat) :
    ∃ cs, SerialRun c0 cs.log cs ∧ Quiescent cs ∧
      (run sch c0 = cs ∨
       ∃ t j, 0 < j ∧ run sch c0 = stepN t j cs ∧ (run sch c0).owner = some t ∧
         (run sch c0).log = cs.log ++ [t]) := by
  obtain ⟨order, cs, hs, hq, hl, hc⟩ := reachable_good c0 h0 sch
  rw [hlog, List.nil_append] at hl
  refine ⟨cs, by rw [hl]; exact hs, hq, ?_⟩
  rcases hc with h | ⟨t, j, hj, hcj, hh, hlg, _⟩
  · exact Or.inl h
  · exact Or.inr ⟨t, j, hj, hcj, hh.1, hlg⟩

/-- When the lock is free (in particular when every thread has finished) shared state and all
    results are those of the serial execution in acquisition order. -/
theorem serialisable_complete (c0 : Config S L) (h0 : Quiescent c0) (hlog : c0.log = []) (sch : List Nat)
    (hfree : (run sch c0).owner = none) :
    SerialRun c0 (run sch c0).log (run sch c0) := by
  obtain ⟨cs, hs, _, h | ⟨t, j, _, _, ho, _⟩⟩ := serialisable c0 h0 hlog sch
  · rw [h]; exact hs
  · rw [ho] at hfree; cases hfree

/-- Mutual exclusion: every thread other than the lock owner is between operations. -/
theorem only_owner_in_progress (c0 : Config S L) (h0 : Quiescent c0) (sch : List Nat) (i : Nat)
    (hi : (run sch c0).owner ≠ some i) : ((run sch c0).threads i).cur = [] := by
  obtain ⟨order, cs, _, hq, _, h | ⟨t, j, _, _, hh, _, _⟩⟩ := reachable_good c0 h0 sch
  · rw [h]; exact hq.2.1 i
  · exact hh.2.2.1 i (by intro hit; apply hi; rw [hit]; exact hh.1)

end Psi.Conc

namespace Psi.Gen
open Psi.Conc

/-- The operations the property lists; `samples_to_index` / `time_to_index` are not among them. -/
def publicOps : List String :=
  ["append_data", "invalidate", "invalidate_samples", "resize", "get_latest", "get_range",
   "get_range_filled", "get_range_samples", "get_samples_lb", "get_samples_ub", "get_time_lb", "get_time_ub"]

/-- In the footprint regenerated from the source, all accesses of a public operation to `_buffer`,
    `_buffer_samples`, `_ilb`, `_samples` — those of the methods it calls included — lie inside one
    outermost span of `self._lock`. -/
theorem buffer_ops_atomic : ∀ n ∈ publicOps, atomicByName Locks.names Locks.methods n = true := by
  decide +kernel

/-- The lock/access skeleton of `op` is the inlined footprint of a public method. -/
def ImplementsPublicOp {S L : Type} (op : List (MStep S L)) : Prop :=
  ∃ n ∈ publicOps, ∃ m, indexOf n Locks.names 0 = some m ∧ op.map MStep.kind = footprint Locks.methods m

/-- Threads that run public `SignalBuffer` operations — whatever the actions compute — are
    serialisable under every schedule. -/
theorem buffer_serialisable {S L : Type} (c0 : Config S L)
    (hfree : c0.owner = none) (hidle : ∀ i, (c0.threads i).cur = []) (hlog : c0.log = [])
    (hops : ∀ i, ∀ op ∈ (c0.threads i).rest, ImplementsPublicOp op) (sch : List Nat) :
    ∃ cs, SerialRun c0 cs.log cs ∧ Quiescent cs ∧
      (run sch c0 = cs ∨
       ∃ t j, 0 < j ∧ run sch c0 = stepN t j cs ∧ (run sch c0).owner = some t ∧
         (run sch c0).log = cs.log ++ [t]) := by
  refine serialisable c0 ⟨hfree, hidle, ?_⟩ hlog sch
  intro i op hop
  obtain ⟨n, hn, m, hm, hk⟩ := hops i op hop
  have := buffer_ops_atomic n hn
  unfold atomicByName at this
  rw [hm] at this
  rw [hk]; exact this

end Psi.Gen

namespace Psi.Conc.Example

/-- shared state: two fields that must change together; local state: what a reader saw -/
abbrev Sh := Nat × Nat
abbrev Lo := Nat × Nat

def writerOp : List (MStep Sh Lo) :=
  [.acq, .act (fun s l => ((s.1 + 1, s.2), l)), .act (fun s l => ((s.1, s.2 + 1), l)), .rel]
def readerOp : List (MStep Sh Lo) :=
  [.acq, .act (fun s l => (s, (s.1, l.2))), .act (fun s l => (s, (l.1, s.2))), .rel]
/-- the same reader with the `with` removed -/
def tornReaderOp : List (MStep Sh Lo) :=
  [.act (fun s l => (s, (s.1, l.2))), .act (fun s l => (s, (l.1, s.2)))]

def cfg (reader : List (MStep Sh Lo)) : Config Sh Lo :=
  { sh := (0, 0), owner := none, depth := 0, log := [],
    threads := fun i => if i = 0 then ⟨[], [writerOp, writerOp], (0, 0)⟩
                        else if i = 1 then ⟨[], [reader], (9, 9)⟩ else ⟨[], [], (0, 0)⟩ }

example : atomicK (writerOp.map MStep.kind) = true := by decide
example : atomicK (readerOp.map MStep.kind) = true := by decide
example : atomicK (tornReaderOp.map MStep.kind) = false := by decide

theorem cfg_quiescent : Quiescent (cfg readerOp) := by
  refine ⟨rfl, ?_, ?_⟩
  · intro i; simp only [cfg]; split
    · rfl
    · split <;> rfl
  · intro i op hop
    simp only [cfg] at hop
    split at hop
    · simp at hop; rcases hop with rfl | rfl <;> decide
    · split at hop
      · simp at hop; subst hop; decide
      · simp at hop

/-- A schedule that tries to pre-empt the writer inside its span: the locked reader reads (1, 1), the
    state after the first write operation … -/
example : ((run [0, 0, 1, 1, 0, 0, 1, 1, 1, 1, 0, 0, 0, 0] (cfg readerOp)).threads 1).loc = (1, 1) := by decide
example : (run [0, 0, 1, 1, 0, 0, 1, 1, 1, 1, 0, 0, 0, 0] (cfg readerOp)).log = [0, 1, 0] := by decide
example : (run [0, 0, 1, 1, 0, 0, 1, 1, 1, 1, 0, 0, 0, 0] (cfg readerOp)).sh = (2, 2) := by decide
/-- … and it is the serial execution writer, reader, writer (instance of `serialisable_complete`) -/
example : SerialRun (cfg readerOp) [0, 1, 0] (run [0, 0, 1, 1, 0, 0, 1, 1, 1, 1, 0, 0, 0, 0] (cfg readerOp)) := by
  have h := serialisable_complete (cfg readerOp) cfg_quiescent rfl [0, 0, 1, 1, 0, 0, 1, 1, 1, 1, 0, 0, 0, 0]
    (by decide)
  have hl : (run [0, 0, 1, 1, 0, 0, 1, 1, 1, 1, 0, 0, 0, 0] (cfg readerOp)).log = [0, 1, 0] := by decide
  rw [hl] at h; exact h
/-- … whereas the reader without the lock sees (1, 0) under the first six steps of that schedule; the
    serial outcomes are (0,0), (1,1), (2,2). -/
example : ((run [0, 0, 1, 1, 0, 0] (cfg tornReaderOp)).threads 1).loc = (1, 0) := by decide

/-- footprints of the compound readers are long -/
example : 10 ≤ (footprint Psi.Gen.Locks.methods 12).length := by decide +kernel
/-- `samples_to_index` reads two fields without the lock -/
example : atomicByName Psi.Gen.Locks.names Psi.Gen.Locks.methods "samples_to_index" = false := by decide +kernel
/-- `get_time_lb` has no `with` of its own but is a single locked unit through `get_samples_lb` -/
example : atomicByName Psi.Gen.Locks.names Psi.Gen.Locks.methods "get_time_lb" = true := by decide +kernel

end Psi.Conc.Example

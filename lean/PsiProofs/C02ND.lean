import PsiProofs.C02
/-!
C02 for histories that mix `pop_buffer(n)` and `pop_buffer(n, decrement=False)`.

`popBufferND` is the code-faithful loop with `next_trial(decrement=False)` (`PsiModel/Queue.lean`);
`tickD dec` / `runSched` is the per-sample specification with the request's flag in force at each sample
instant (`PsiModel/QueueSpec.lean`). A history is determined by its decrement schedule (the flag at
every sample instant): histories with the same schedule agree in output, final state and `added` log,
and the timeline theorems of C02 hold for every mixed history. Moving a request boundary across a
change of flag changes the schedule, and the result (last examples). A `decrement=False` request moves
no counter, so the same stimuli keep being selected.
As in C02, all theorems hold for every policy, every oracle of random choices and every `WF` state.
-/
namespace Psi.Queue

/-- `pop n` = `pop_buffer(n)`, `popnd n` = `pop_buffer(n, decrement=False)` -/
inductive Req
  | pop (n : Nat)
  | popnd (n : Nat)
  deriving DecidableEq, Repr

def Req.size : Req → Nat
  | .pop n => n
  | .popnd n => n

def Req.dec : Req → Bool
  | .pop _ => true
  | .popnd _ => false

def popReq : Req → QState → Except Err (List Cell × QState)
  | .pop n, s => popBuffer n s
  | .popnd n, s => popBufferND n s

def popHist : List Req → QState → Except Err (List Cell × QState)
  | [], s => .ok ([], s)
  | r :: rs, s =>
    match popReq r s with
    | .error e => .error e
    | .ok (o, s') =>
      match popHist rs s' with
      | .error e => .error e
      | .ok (os, s'') => .ok (o ++ os, s'')

/-- the decrement schedule of a history: the flag in force at each sample instant -/
def schedOf : List Req → List Bool
  | [] => []
  | r :: rs => List.replicate r.size r.dec ++ schedOf rs

def histSize (h : List Req) : Nat := (h.map Req.size).sum

theorem schedOf_length (h : List Req) : (schedOf h).length = histSize h := by
  induction h with
  | nil => rfl
  | cons r rs ih => simp [schedOf, histSize, ih] at *

/-- One `pop_buffer(n, decrement=False)` request of any size is `n` steps of the per-sample timeline
run with the flag off: same output, same final state (the `added` log included), same error. -/
theorem popBufferND_refines {n : Nat} {s : QState} (hw : WF s) (hn : 0 < n) :
    popBufferND n s = runTicksD false n s := by
  unfold popBufferND
  rw [if_neg (Nat.ne_of_gt hn), popLoopND_eq_G]
  exact popLoopG_eq_runTicksD false _ _ _ hw (Nat.add_le_add_left (Nat.le_succ_of_le (slack_le s)) _)

theorem popReq_sched {r : Req} {s : QState} (hw : WF s) (hr : 0 < r.size) :
    popReq r s = runSched (List.replicate r.size r.dec) s := by
  cases r with
  | pop n => exact popBuffer_refinesD hw hr
  | popnd n => exact popBufferND_refines hw hr

/-- Output, final state and notification log of `pop_buffer(a+b, decrement=False)` are those of the two
requests of `a` and `b` samples. -/
theorem popBufferND_append {a b : Nat} {s : QState} (hw : WF s) (ha : 0 < a) (hb : 0 < b) :
    popBufferND (a + b) s =
      match popBufferND a s with
      | .error e => .error e
      | .ok (o1, s1) =>
        match popBufferND b s1 with
        | .error e => .error e
        | .ok (o2, s2) => .ok (o1 ++ o2, s2) :=
  append_of_refines popBufferND_refines hw ha hb

theorem popHist_cons_ok {r : Req} {rs : List Req} {s : QState} {res : List Cell × QState}
    (hok : popHist (r :: rs) s = .ok res) :
    ∃ o s1 os, popReq r s = .ok (o, s1) ∧ popHist rs s1 = .ok (os, res.2) ∧ res.1 = o ++ os := by
  rw [popHist] at hok
  split at hok
  · cases hok
  · rename_i o s1 h1
    split at hok
    · cases hok
    · rename_i os s2 h2
      cases hok
      exact ⟨o, s1, os, h1, h2, rfl⟩

/-- `pop_buffer(0)` raises ValueError -/
theorem popHist_ok_pos {h : List Req} {s : QState} {r : List Cell × QState}
    (hok : popHist h s = .ok r) : ∀ q ∈ h, 0 < q.size := by
  induction h generalizing s r with
  | nil => intro q hq; simp at hq
  | cons a rs ih =>
    obtain ⟨o, s1, os, h1, h2, _⟩ := popHist_cons_ok hok
    intro q hq
    rcases List.mem_cons.1 hq with rfl | hq
    · rcases Nat.eq_zero_or_pos q.size with h0 | h0
      · cases q <;> simp only [Req.size] at h0 <;> subst h0 <;>
          simp [popReq, popBuffer, popBufferND] at h1
      · exact h0
    · exact ih h2 q hq

/-- A sequence of requests of both kinds is the per-sample timeline run with, at each sample instant,
the flag of the request that covers it: same output, same final state and `added` log, same error. -/
theorem popHist_sched {h : List Req} {s : QState} (hw : WF s) (hpos : ∀ r ∈ h, 0 < r.size) :
    popHist h s = runSched (schedOf h) s := by
  induction h generalizing s with
  | nil => rfl
  | cons r rs ih =>
    rw [popHist, schedOf, runSched_append, popReq_sched hw (hpos r (by simp))]
    cases h1 : runSched (List.replicate r.size r.dec) s with
    | error e => rfl
    | ok r1 =>
      obtain ⟨o, s1⟩ := r1
      simp only
      rw [ih (runSched_inv _ hw h1).1 (fun q hq => hpos q (by simp [hq]))]
      rfl

/-- Two histories that apply the same flag at every sample instant give the same output, final state,
`added` log and error; adjacent requests of the same kind can be merged or split at will. Re-chunking
across a change of flag is not invariant: `[pop 5, popnd 4]` and `[pop 6, popnd 3]` differ in the
counters when a trial starts at sample 5 (examples at the end of the file). -/
theorem popHist_chunk_invariant {h1 h2 : List Req} {s : QState} (hw : WF s)
    (hp1 : ∀ r ∈ h1, 0 < r.size) (hp2 : ∀ r ∈ h2, 0 < r.size) (he : schedOf h1 = schedOf h2) :
    popHist h1 s = popHist h2 s := by
  rw [popHist_sched hw hp1, popHist_sched hw hp2, he]

theorem popHist_pop (ns : List Nat) (s : QState) : popHist (ns.map Req.pop) s = popAll ns s := by
  induction ns generalizing s with
  | nil => rfl
  | cons n ns ih =>
    simp only [List.map_cons, popHist, popAll, popReq]
    cases popBuffer n s with
    | error e => rfl
    | ok r => obtain ⟨o, s'⟩ := r; simp only [ih]; rfl

theorem WF_hist {h : List Req} {s s' : QState} {out : List Cell} (hw : WF s)
    (hok : popHist h s = .ok (out, s')) : WF s' := by
  rw [popHist_sched hw (popHist_ok_pos hok)] at hok
  exact (runSched_inv _ hw hok).1

/-- A mixed history advances the clock by the number of samples requested and returns that many. -/
theorem clock_eq_hist {h : List Req} {s s' : QState} {out : List Cell} (hw : WF s)
    (hok : popHist h s = .ok (out, s')) :
    s'.samples = s.samples + (histSize h : Nat) ∧ out.length = histSize h := by
  rw [popHist_sched hw (popHist_ok_pos hok)] at hok
  have := (runSched_inv _ hw hok).2
  rwa [schedOf_length] at this

/-- From a state with nothing pending, the output of a mixed history followed by what is
still committed equals the rendering of the newly notified trials (each waveform in full, then its delay
in zeros) followed by zeros. -/
theorem timeline_hist {h : List Req} {s s' : QState} {out : List Cell} (hw : WF s) (hf : Fresh s)
    (hok : popHist h s = .ok (out, s')) :
    ∃ new z, s'.added = s.added ++ new ∧ out ++ rest s' = render new ++ zeros z ∧
      PosOK s.samples new := by
  rw [popHist_sched hw (popHist_ok_pos hok)] at hok
  exact timeline_sched hf hok

/-- The first new trial starts at the clock of the fresh state, each further one `len + delay` samples
after the previous one, whichever kind of request started either of them. -/
theorem gap_exact_hist {h : List Req} {s s' : QState} {out : List Cell} (hw : WF s) (hf : Fresh s)
    (hok : popHist h s = .ok (out, s')) :
    ∃ new, s'.added = s.added ++ new ∧
      (∀ h0 : 0 < new.length, new[0].k = s.samples) ∧
      (∀ j (hj : j + 1 < new.length),
        new[j + 1].k = new[j].k + (new[j].len : Nat) + (new[j].delay.toNat : Nat)) := by
  obtain ⟨new, z, ha, _, hp⟩ := timeline_hist hw hf hok
  exact ⟨new, ha, gap_exact_of hp⟩

/-- From the notified start sample on, the output of a mixed history is
the queued waveform, sample for sample, for its full length (as far as the output reaches). -/
theorem waveform_embedded_hist {h : List Req} {s s' : QState} {out : List Cell} (hw : WF s)
    (hf : Fresh s) (hok : popHist h s = .ok (out, s')) :
    ∃ new, s'.added = s.added ++ new ∧
      ∀ j (hj : j < new.length) (i : Nat), i < new[j].len →
        ∀ p : Nat, new[j].k + (i : Nat) = s.samples + (p : Nat) → p < histSize h →
          out[p]? = some (Cell.W new[j].key i) := by
  obtain ⟨new, z, ha, he, hp⟩ := timeline_hist hw hf hok
  exact ⟨new, ha, waveform_embedded_of he hp (clock_eq_hist hw hok).2⟩

/-- Every sample returned by a mixed history is zero or sample `i` of a notified trial located at
`k + i`. -/
theorem uncovered_zero_hist {h : List Req} {s s' : QState} {out : List Cell} (hw : WF s)
    (hf : Fresh s) (hok : popHist h s = .ok (out, s')) :
    ∃ new, s'.added = s.added ++ new ∧
      ∀ p : Nat, p < histSize h → out[p]? = some Cell.Z ∨
        ∃ j, ∃ hj : j < new.length, ∃ i, i < new[j].len ∧
          new[j].k + (i : Nat) = s.samples + (p : Nat) ∧ out[p]? = some (Cell.W new[j].key i) := by
  obtain ⟨new, z, ha, he, hp⟩ := timeline_hist hw hf hok
  exact ⟨new, ha, uncovered_zero_of he hp (clock_eq_hist hw hok).2⟩

/-- A `pop_buffer(n, decrement=False)` request leaves the ordering (no key is removed), the completion
flag and the remaining-trials counter of every key as they were. -/
theorem popnd_counters_unchanged {n : Nat} {s s' : QState} {out : List Cell}
    (h : popBufferND n s = .ok (out, s')) :
    s'.ordering = s.ordering ∧ s'.complete = s.complete ∧ ∀ k, trialsOf s' k = trialsOf s k := by
  unfold popBufferND at h
  split at h
  · simp at h
  · exact popLoopND_counters _ _ h

/-- The same for a whole history of `decrement=False` requests. -/
theorem popHist_nd_counters_unchanged {h : List Req} {s s' : QState} {out : List Cell}
    (hnd : ∀ r ∈ h, r.dec = false) (hok : popHist h s = .ok (out, s')) :
    s'.ordering = s.ordering ∧ s'.complete = s.complete ∧ ∀ k, trialsOf s' k = trialsOf s k := by
  induction h generalizing s out with
  | nil => cases hok; exact ⟨rfl, rfl, fun _ => rfl⟩
  | cons r rs ih =>
    obtain ⟨o, s1, os, h1, h2, _⟩ := popHist_cons_ok hok
    have a : SameCounters s s1 := by
      cases r with
      | pop n => have := hnd (.pop n) (by simp); simp [Req.dec] at this
      | popnd n => exact popnd_counters_unchanged h1
    exact a.trans (ih (fun q hq => hnd q (by simp [hq])) h2)

/-! `demo` of C02: interleaved, key 0 = 3 samples, 2 trials, delay 2; key 1 = 2-sample generator,
1 trial, delays 0, 1. -/

structure View where
  out : List Cell
  log : List (Nat × Int)
  trials : List Int
  ordering : List Nat
  complete : Bool
  deriving DecidableEq, Repr

def view (r : Except Err (List Cell × QState)) : Option View :=
  r.toOption.map (fun r => ⟨r.1, r.2.added.map (fun i => (i.key, i.k)), r.2.data.map (·.trials),
    r.2.ordering, r.2.complete⟩)

-- a mixed history: same timeline as `popBuffer 9 demo`, only the trials started under `pop` are counted
example : view (popHist [.pop 4, .popnd 3, .pop 2] demo) =
    some ⟨[.W 0 0, .W 0 1, .W 0 2, .Z, .Z, .W 1 0, .W 1 1, .W 0 0, .W 0 1],
      [(0, 0), (1, 5), (0, 7)], [0, 1], [0, 1], false⟩ := by decide +kernel
example : view (popBuffer 9 demo) =
    some ⟨[.W 0 0, .W 0 1, .W 0 2, .Z, .Z, .W 1 0, .W 1 1, .W 0 0, .W 0 1],
      [(0, 0), (1, 5), (0, 7)], [0, 0], [0, 1], true⟩ := by decide +kernel
example : view (popBufferND 9 demo) =
    some ⟨[.W 0 0, .W 0 1, .W 0 2, .Z, .Z, .W 1 0, .W 1 1, .W 0 0, .W 0 1],
      [(0, 0), (1, 5), (0, 7)], [2, 1], [0, 1], false⟩ := by decide +kernel
example : schedOf [.pop 4, .popnd 3, .pop 2] = schedOf [.pop 1, .pop 3, .popnd 2, .popnd 1, .pop 2] := by
  decide +kernel
example : view (popHist [.pop 1, .pop 3, .popnd 2, .popnd 1, .pop 2] demo) =
    view (popHist [.pop 4, .popnd 3, .pop 2] demo) := by decide +kernel
-- across a change of flag: the trial starting at sample 5 is counted or not
example : view (popHist [.pop 5, .popnd 4] demo) ≠ view (popHist [.pop 6, .popnd 3] demo) := by decide +kernel
example : (view (popHist [.pop 5, .popnd 4] demo)).map (·.trials) = some [1, 1] ∧
    (view (popHist [.pop 6, .popnd 3] demo)).map (·.trials) = some [1, 0] := by decide +kernel

end Psi.Queue
